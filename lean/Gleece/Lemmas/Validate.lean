/- C10: the link validator, pass by pass and as a whole - when it reports nothing, in both directions -/
import Gleece.Model.Validate
namespace Gleece.Validate

theorem ite_cons_else_eq_nil {α} {c : Prop} [Decidable c] {x : α} {xs l : List α} :
    (if c then x :: xs else l) = [] ↔ ¬c ∧ l = [] := by
  split <;> simp [*]

theorem of_ite_cons_nil {α} {c : Prop} [Decidable c] {x : α} (h : (if c then [x] else []) = []) : ¬ c :=
  by simpa using h

/-- `xs` are pairwise distinct and none of them has been seen: what a loop that remembers what it saw, and reports
    every repeat, accepts -/
def Fresh {α} (xs seen : List α) : Prop := xs.Nodup ∧ ∀ x ∈ xs, x ∉ seen

theorem fresh_nil {α} (seen : List α) : Fresh [] seen := ⟨List.nodup_nil, fun _ h => nomatch h⟩

theorem fresh_cons {α} {x : α} {xs seen : List α} : Fresh (x :: xs) seen ↔ x ∉ seen ∧ Fresh xs (seen ++ [x]) := by
  simp only [Fresh, List.nodup_cons, List.forall_mem_cons, List.mem_append, List.mem_singleton, not_or]
  constructor
  · rintro ⟨⟨h1, h2⟩, h3, h4⟩
    exact ⟨h3, h2, fun y hy => ⟨h4 y hy, fun e => h1 (e ▸ hy)⟩⟩
  · rintro ⟨h3, h2, h4⟩
    exact ⟨⟨fun hx => (h4 x hx).2 rfl, h2⟩, h3, fun y hy => (h4 y hy).1⟩

theorem fresh_map {α β} {f : α → β} {as : List α} {seen : List β} :
    Fresh (as.map f) seen ↔ (as.map f).Nodup ∧ ∀ a ∈ as, f a ∉ seen := by
  rw [Fresh, List.forall_mem_map]

theorem fresh_nil_right {α} {xs : List α} : Fresh xs [] ↔ xs.Nodup := by simp [Fresh]

theorem goUrl_eq_nil_iff (referenced ps seen : List String) :
    linkValidate.goUrl referenced ps seen = [] ↔ Fresh ps seen ∧ ∀ p ∈ ps, p ∈ referenced := by
  induction ps generalizing seen with
  | nil => simp [linkValidate.goUrl, fresh_nil]
  | cons p rest ih =>
    rw [linkValidate.goUrl, fresh_cons, List.forall_mem_cons]
    simp only [List.append_eq_nil_iff, ite_eq_right_iff, ite_eq_left_iff, reduceCtorEq, imp_false, Decidable.not_not, List.contains_iff_mem]
    by_cases hs : p ∈ seen
    · simp [hs]
    · simp only [hs, if_false, ih, not_false_eq_true, true_and]
      exact ⟨fun ⟨a, b, c⟩ => ⟨b, a, c⟩, fun ⟨b, a, c⟩ => ⟨a, b, c⟩⟩

/-- the url pass accepts names that are distinct, not seen before and referenced -/
theorem goUrl_of_nodup (referenced ps seen : List String) (hnd : ps.Nodup) (hdisj : ∀ p ∈ ps, p ∉ seen)
    (href : ∀ p ∈ ps, referenced.contains p = true) : linkValidate.goUrl referenced ps seen = [] :=
  (goUrl_eq_nil_iff referenced ps seen).2 ⟨⟨hnd, hdisj⟩, fun p hp => List.contains_iff_mem.1 (href p hp)⟩

/-- the name a @Path goes by in the URL: its non-empty `name` property, otherwise the parameter's own name
    (`wireName` of the reducer; `getPathAliasOrName` of the validator for a non-empty alias) -/
def urlName (a : Annot) : String :=
  match aliasOf a with
  | .ok v => if v.isEmpty then a.value else v
  | _ => a.value

theorem urlName_of_alias {a : Annot} {al : String} (h : aliasOf a = .ok al) (hne : al ≠ "") : urlName a = al := by
  simp [urlName, h, hne]

theorem urlName_of_no_alias {a : Annot} (h : ∀ al, aliasOf a = .ok al → al = "") : urlName a = a.value := by
  unfold urlName
  cases hal : aliasOf a with
  | ok al => simp [h al hal]
  | _ => rfl

/-- the validator's own reading of a @Path differs from its URL name only for an empty alias -/
theorem refName_eq_urlName {a : Annot} (h : aliasOf a ≠ .ok "") : refName a = urlName a := by
  unfold refName urlName
  cases hal : aliasOf a with
  | ok al =>
    have : al ≠ "" := fun e => h (e ▸ hal)
    simp [this]
  | _ => rfl

/-- what the @Path pass demands of one annotation.  `U`: the `{names}` of the route, `F`: the names a @Path can bind
    (`urlParams`, `funcParams` of the model); `sp`, `sv`, `sa`: the parameters, values and URL names seen so far
    (`seenParams`, `seenVals`, `seenAliases`) -/
def PathOk (U F sp sv sa : List String) (a : Annot) : Prop :=
  a.value ∈ F ∧ a.value ∉ sp ∧ a.value ∉ sv ∧ urlName a ∉ sa ∧ aliasOf a ≠ .bad ∧
    ∀ al, aliasOf a = .ok al → al ≠ "" → al ∈ U

/-- one turn of the @Path pass: an annotation that meets the demands lets the pass go on with each memory grown by one
    entry and adds no diagnostic; any other adds one -/
theorem goPath_cons (U F : List String) (a : Annot) (rest : List Annot) (sp sv sa : List String) :
    (PathOk U F sp sv sa a → linkValidate.goPath U F (a :: rest) sp sv sa =
        linkValidate.goPath U F rest (sp ++ [a.value]) (sv ++ [a.value]) (sa ++ [urlName a])) ∧
    ((linkValidate.goPath U F (a :: rest) sp sv sa).1 = [] → PathOk U F sp sv sa a) := by
  rw [linkValidate.goPath]
  simp only [PathOk, urlName, List.append_eq_nil_iff, ite_cons_else_eq_nil, Bool.not_eq_true', Bool.and_eq_true,
    List.contains_eq_mem, decide_eq_false_iff_not, decide_eq_true_eq, Classical.not_not]
  cases hal : aliasOf a with
  | bad => simp                -- a `name` that is no string is reported
  | none => simp +contextual   -- no alias: the URL name is the value
  | ok al => by_cases he : al = "" <;> simp +contextual [he]   -- an empty alias counts as none; any other is the URL name

/-- the conditions under which the @Path pass reports nothing, for any state of what it has seen -/
structure PathsOk (U F sp sv sa : List String) (as : List Annot) : Prop where
  known : ∀ a ∈ as, a.value ∈ F
  aliasOk : ∀ a ∈ as, aliasOf a ≠ .bad
  aliasInUrl : ∀ a ∈ as, ∀ al, aliasOf a = .ok al → al ≠ "" → al ∈ U
  paramsFresh : Fresh (as.map (·.value)) sp
  valuesFresh : Fresh (as.map (·.value)) sv
  namesFresh : Fresh (as.map urlName) sa

theorem pathsOk_cons {U F sp sv sa : List String} {a : Annot} {rest : List Annot} :
    PathsOk U F sp sv sa (a :: rest) ↔
      PathOk U F sp sv sa a ∧ PathsOk U F (sp ++ [a.value]) (sv ++ [a.value]) (sa ++ [urlName a]) rest := by
  constructor
  · rintro ⟨hk, hb, hu, hp, hv, hn⟩
    rw [List.forall_mem_cons] at hk hb hu
    rw [List.map_cons, fresh_cons] at hp hv hn
    exact ⟨⟨hk.1, hp.1, hv.1, hn.1, hb.1, hu.1⟩, hk.2, hb.2, hu.2, hp.2, hv.2, hn.2⟩
  · rintro ⟨⟨hF, hsp, hsv, hsa, hbad, hU⟩, hk, hb, hu, hp, hv, hn⟩
    exact ⟨List.forall_mem_cons.2 ⟨hF, hk⟩, List.forall_mem_cons.2 ⟨hbad, hb⟩, List.forall_mem_cons.2 ⟨hU, hu⟩,
      fresh_cons.2 ⟨hsp, hp⟩, fresh_cons.2 ⟨hsv, hv⟩, fresh_cons.2 ⟨hsa, hn⟩⟩

theorem goPath_fst_eq_nil_iff (U F : List String) (as : List Annot) (sp sv sa : List String) :
    (linkValidate.goPath U F as sp sv sa).1 = [] ↔ PathsOk U F sp sv sa as := by
  induction as generalizing sp sv sa with
  | nil => exact ⟨fun _ => ⟨(fun _ h => nomatch h), (fun _ h => nomatch h), (fun _ h => nomatch h), fresh_nil _, fresh_nil _,
      fresh_nil _⟩, fun _ => rfl⟩
  | cons a rest ih =>
    rw [pathsOk_cons, ← ih]
    have step := goPath_cons U F a rest sp sv sa
    exact ⟨fun h => ⟨step.2 h, step.1 (step.2 h) ▸ h⟩, fun ⟨ok, h⟩ => step.1 ok ▸ h⟩

/-- … and when it reports nothing, the parameters it has seen bound are the values of the annotations -/
theorem goPath_snd_of_ok (U F : List String) (as : List Annot) (sp sv sa : List String) (h : PathsOk U F sp sv sa as) :
    (linkValidate.goPath U F as sp sv sa).2 = sp ++ as.map (·.value) := by
  induction as generalizing sp sv sa with
  | nil => simp [linkValidate.goPath]
  | cons a rest ih =>
    obtain ⟨ok, h⟩ := pathsOk_cons.1 h
    rw [(goPath_cons U F a rest sp sv sa).1 ok, ih _ _ _ h, List.map_cons, List.append_assoc, List.singleton_append]

/-- the @Path pass accepts annotations that bind known parameters under well-formed aliases, with values and URL names
    that are distinct and not seen before; what it has then seen bound are their values -/
theorem goPath_of_wellformed (funcParams urlParams : List String) (as : List Annot) : ∀ (sp sv sa : List String),
    (∀ a ∈ as, funcParams.contains a.value = true ∧ aliasOf a ≠ .bad ∧
        ∀ al, aliasOf a = .ok al → al ≠ "" ∧ urlParams.contains al = true) →
    (as.map (·.value)).Nodup → (∀ a ∈ as, a.value ∉ sp ∧ a.value ∉ sv) →
    (as.map urlName).Nodup → (∀ a ∈ as, urlName a ∉ sa) →
    linkValidate.goPath urlParams funcParams as sp sv sa = ([], sp ++ as.map (·.value)) := by
  intro sp sv sa hall hvnd hvdisj hnnd hndisj
  have ok : PathsOk urlParams funcParams sp sv sa as :=
    ⟨fun a ha => List.contains_iff_mem.1 (hall a ha).1, fun a ha => (hall a ha).2.1,
      fun a ha al hal _ => List.contains_iff_mem.1 ((hall a ha).2.2 al hal).2,
      fresh_map.2 ⟨hvnd, fun a ha => (hvdisj a ha).1⟩, fresh_map.2 ⟨hvnd, fun a ha => (hvdisj a ha).2⟩,
      fresh_map.2 ⟨hnnd, hndisj⟩⟩
  exact Prod.ext ((goPath_fst_eq_nil_iff ..).2 ok) (goPath_snd_of_ok _ _ _ _ _ _ ok)

/-- the @Path pass reports nothing only if the annotations carry pairwise different values (parameter names) -/
theorem goPath_values_nodup (funcParams urlParams : List String) (as : List Annot) (sp sv sa : List String)
    (h : (linkValidate.goPath urlParams funcParams as sp sv sa).1 = []) :
    (as.map (·.value)).Nodup ∧ ∀ a ∈ as, a.value ∉ sv :=
  fresh_map.1 ((goPath_fst_eq_nil_iff ..).1 h).valuesFresh

/-- an annotation whose value is blank binds nothing (pass 3 of the link validator skips it) -/
def blankValue (a : Annot) : Bool := a.value.toList.all (· = ' ')

/-- the `{names}` of the full template: controller prefix, then the method's first @Route -/
def routeParams (ctrlRoute : String) (m : Method) : List String :=
  extractUrlParams (ctrlRoute ++ ((m.annots.filter (·.name = "Route")).head?.map (·.value)).getD "")
def pathAnnots (m : Method) : List Annot := m.annots.filter (·.name = "Path")
/-- the names an annotation can bind: those of the non-context parameters -/
def boundParams (m : Method) : List String := (m.params.filter fun p => !isContextType p.type).map (·.name)

theorem eraseDups_eq_nil {α} [BEq α] {l : List α} : l.eraseDups = [] ↔ l = [] := by
  cases l <;> simp [List.eraseDups_cons]

theorem ite_not_isEmpty_map_eq_nil {α β} {l : List α} {f : α → β} {r : List β} :
    (if !l.isEmpty then l.map f else r) = [] ↔ l = [] ∧ r = [] := by
  cases l <;> simp

/-- pass 4: whether or not the parameter names are distinct (the `eraseDups` branch), nothing is reported iff every
    non-context parameter has been seen -/
theorem unreferenced_eq_nil_iff (params : List MParam) (seen : List String) (f : MParam → Diag) :
    (if (params.map (·.name)).eraseDups.length = params.length
      then (params.filter fun p => !seen.contains p.name && !isContextType p.type).map f
      else ((params.filter fun p => !seen.contains p.name && !isContextType p.type).map f).eraseDups) = [] ↔
    ∀ p ∈ params, isContextType p.type = false → p.name ∈ seen := by
  rw [apply_ite (· = []), eraseDups_eq_nil, ite_self, List.map_eq_nil_iff, List.filter_eq_nil_iff]
  simp only [Bool.and_eq_true, Bool.not_eq_true', List.contains_eq_mem, decide_eq_false_iff_not, not_and, Bool.not_eq_false]
  refine forall₂_congr fun p _ => ?_
  cases isContextType p.type <;> simp

/-- pass 4 reports nothing when every non-context parameter has been seen -/
theorem d4_nil (params : List MParam) (seen : List String) (f : MParam → Diag)
    (h : ∀ p ∈ params, isContextType p.type = false → p.name ∈ seen) :
    (if (params.map (·.name)).eraseDups.length = params.length
      then (params.filter fun p => !seen.contains p.name && !isContextType p.type).map f
      else ((params.filter fun p => !seen.contains p.name && !isContextType p.type).map f).eraseDups) = [] :=
  (unreferenced_eq_nil_iff params seen f).2 h

/-- **what the link validator accepts**: the `{names}` of the template are distinct and each is referenced by a @Path;
    every @Path binds a parameter of its own under a URL name of its own, and a non-empty alias is a `{name}`; every other
    binding annotation with a value binds a parameter; every non-context parameter is bound.  (`WellLinked`, the
    property's wording in `C10Complete.lean`, differs in two places: it knows no empty alias, which the validator reads
    as no alias, and it speaks of `urlName` where the validator reads `refName`.) -/
structure LinkOk (ctrlRoute : String) (m : Method) : Prop where
  urlNodup : (routeParams ctrlRoute m).Nodup
  urlReferenced : ∀ p ∈ routeParams ctrlRoute m, p ∈ (pathAnnots m).map refName
  paths : PathsOk (routeParams ctrlRoute m) (boundParams m) [] [] [] (pathAnnots m)
  othersKnown : ∀ a ∈ m.annots, isBindingAnnot a.name = true → blankValue a = false → a.value ∈ boundParams m
  allReferenced : ∀ p ∈ m.params, isContextType p.type = false →
    ∃ a ∈ m.annots, (a.name = "Path" ∨ isBindingAnnot a.name = true ∧ blankValue a = false) ∧ a.value = p.name

theorem linkValidate_eq_nil_iff (ctrlRoute : String) (m : Method) : linkValidate ctrlRoute m = [] ↔ LinkOk ctrlRoute m := by
  unfold linkValidate
  simp only [List.append_eq_nil_iff, unreferenced_eq_nil_iff, goPath_fst_eq_nil_iff, ite_not_isEmpty_map_eq_nil,
    goUrl_eq_nil_iff, fresh_nil_right, List.map_eq_nil_iff, List.filter_eq_nil_iff]
  simp only [List.mem_filter, Bool.and_eq_true, Bool.not_eq_true', Bool.not_eq_false, List.contains_eq_mem,
    decide_eq_true_eq, and_imp]
  -- the left side now reads: (((no @Path alias is malformed ∧ urlNodup ∧ urlReferenced) ∧ paths) ∧ othersKnown) ∧
  -- every non-context parameter is in what the @Path pass has seen bound ++ the values of the other binding annotations
  constructor
  · rintro ⟨⟨⟨⟨-, hnd, hurl⟩, hpath⟩, hoth⟩, hall⟩
    rw [goPath_snd_of_ok _ _ _ _ _ _ hpath] at hall
    refine ⟨hnd, hurl, hpath, hoth, fun p hp hc => ?_⟩
    simp only [List.nil_append, List.mem_append, List.mem_map, List.mem_filter, Bool.and_eq_true, Bool.not_eq_true',
      decide_eq_true_eq] at hall
    rcases hall p hp hc with ⟨a, ⟨ha, hn⟩, hv⟩ | ⟨a, ⟨⟨ha, hb⟩, -⟩, hv⟩
    · exact ⟨a, ha, Or.inl hn, hv⟩
    · exact ⟨a, ha, Or.inr hb, hv⟩
  · rintro ⟨hnd, hurl, hpath, hoth, hall⟩
    unfold routeParams pathAnnots boundParams at hpath
    rw [goPath_snd_of_ok _ _ _ _ _ _ hpath]
    refine ⟨⟨⟨⟨fun a ha hn => hpath.aliasOk a (List.mem_filter.2 ⟨ha, by simpa using hn⟩), hnd, hurl⟩, hpath⟩, hoth⟩,
      fun p hp hc => ?_⟩
    simp only [List.nil_append, List.mem_append, List.mem_map, List.mem_filter, Bool.and_eq_true, Bool.not_eq_true',
      decide_eq_true_eq]
    obtain ⟨a, ha, hk | hk, hv⟩ := hall p hp hc
    · exact Or.inl ⟨a, ⟨ha, hk⟩, hv⟩
    · exact Or.inr ⟨a, ⟨⟨ha, hk⟩, hv ▸ ⟨p, ⟨hp, hc⟩, rfl⟩⟩, hv⟩

end Gleece.Validate
