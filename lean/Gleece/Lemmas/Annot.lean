/-
  C16: what the pieces of the annotation matcher return — the scanners (`span`, `dropSpaces`, `pickClose`), `tryJson`,
  and each stage of `parseTrimmed` on the text `render` puts together.
  `span` and `dropSpaces` are `List.takeWhile` / `List.dropWhile`, so core's lemmas say what they return; the one
  fact added is where a scan stops on `a ++ b` (`takeWhile_dropWhile_append`, `Lemmas/Iterate.lean`).  "`b` does not
  start with a `p` character" is written `∀ c, b.head? = some c → p c = false` throughout.
-/
import Gleece.Model.Annot
import Gleece.Lemmas.Iterate
namespace Gleece.Text

theorem hasPrefix_iff (s p : Str) : hasPrefix s p = true ↔ ∃ r, s = p ++ r := by
  fun_induction hasPrefix s p with
  | case1 s => simp
  | case2 => simp
  | case3 c s d p ih =>
    simp only [Bool.and_eq_true, beq_iff_eq, ih, List.cons_append, List.cons.injEq]
    constructor
    · rintro ⟨rfl, r, rfl⟩; exact ⟨r, rfl, rfl⟩
    · rintro ⟨r, rfl, rfl⟩; exact ⟨rfl, r, rfl⟩

theorem hasPrefix_append (p s : Str) : hasPrefix (p ++ s) p = true := (hasPrefix_iff _ _).2 ⟨s, rfl⟩

theorem hasPrefix_length {s p : Str} (h : hasPrefix s p = true) : p.length ≤ s.length := by
  obtain ⟨r, rfl⟩ := (hasPrefix_iff _ _).1 h
  simp

end Gleece.Text

namespace Gleece.Annot
open Gleece.Text

theorem not_starts_cons {p : Char → Bool} {c : Char} (h : p c = false) (t : Str) :
    ∀ d, (c :: t).head? = some d → p d = false := by
  rintro d ⟨⟩; exact h

/-- the way `WF` says "does not start with a `p` character" -/
theorem head_not_iff (p : Char → Bool) (l : Str) :
    (match l with | [] => true | c :: _ => !p c) = true ↔ ∀ c, l.head? = some c → p c = false := by
  cases l <;> simp

theorem reSpace_not_word (c : Char) (h : isReSpace c = true) : isReWord c = false := by
  simp only [isReSpace, Bool.or_eq_true, decide_eq_true_eq] at h
  rcases h with (((h | h) | h) | h) | h <;> subst h <;> decide

theorem reSpace_ne_paren (c : Char) (h : isReSpace c = true) : c ≠ '(' := by
  intro hc; subst hc; revert h; decide

theorem span_eq (p : Char → Bool) (s : Str) : span p s = (s.takeWhile p, s.dropWhile p) := by
  induction s with
  | nil => rfl
  | cons c t ih => rw [span, ih]; cases h : p c <;> simp [h]

theorem span_spec (p : Char → Bool) (s : Str) : ∃ a b, span p s = (a, b) ∧ s = a ++ b ∧ a.all p = true :=
  ⟨_, _, span_eq p s, List.takeWhile_append_dropWhile.symm, List.all_takeWhile⟩

/-- `span` returns the maximal prefix: `a` all satisfy `p`, and `b` does not start with a `p` character -/
theorem span_eq_of {p : Char → Bool} {a b : Str} (ha : a.all p = true)
    (hb : ∀ c, b.head? = some c → p c = false) : span p (a ++ b) = (a, b) := by
  rw [span_eq, (takeWhile_dropWhile_append ha hb).1, (takeWhile_dropWhile_append ha hb).2]

theorem dropSpaces_eq_of {ws rest : Str} (hws : ws.all isReSpace = true)
    (hr : ∀ c, rest.head? = some c → isReSpace c = false) : dropSpaces (ws ++ rest) = rest :=
  (takeWhile_dropWhile_append hws hr).2

theorem dropSpaces_split (s : Str) : ∃ ws, ws.all isReSpace = true ∧ s = ws ++ dropSpaces s :=
  ⟨_, List.all_takeWhile, List.takeWhile_append_dropWhile.symm⟩

/-- whatever `pickClose` returns is a genuine split `s = a ++ ")" ++ b` with `a` ending in `}` and an
    acceptable tail -/
theorem pickClose_sound (s a b : Str) (h : pickClose s = some (a, b)) :
    s = a ++ ')' :: b ∧ a.getLast? = some '}' ∧ tailOk b = true := by
  fun_induction pickClose s generalizing a b with
  | case1 => cases h
  | case2 c t a' b' hrec ih =>
    cases h
    obtain ⟨h1, h2, h3⟩ := ih _ _ hrec
    exact ⟨by rw [h1]; rfl, by rw [List.getLast?_cons, h2]; rfl, h3⟩
  | case3 c d b' hc =>
    simp only [Bool.and_eq_true, decide_eq_true_eq] at hc
    obtain ⟨⟨rfl, rfl⟩, ht⟩ := hc
    cases h
    exact ⟨rfl, rfl, ht⟩
  | case4 => cases h
  | case5 => cases h

/-- conversely, such a split is the one chosen when nothing further to the right qualifies -/
theorem pickClose_intended (a tail : Str) (ha : a.getLast? = some '}') (htail : tailOk tail = true)
    (hnone : pickClose tail = none) : pickClose (a ++ ')' :: tail) = some (a, tail) := by
  induction a with
  | nil => cases ha
  | cons c cs ih =>
    rw [List.cons_append]
    unfold pickClose
    cases cs with
    | nil =>
      have h1 : pickClose (')' :: tail) = none := by
        unfold pickClose
        rw [hnone]
        cases tail <;> rfl
      obtain rfl : c = '}' := by simpa using ha
      simp [h1, htail]
    | cons d ds => rw [ih (by rwa [List.getLast?_cons_cons] at ha)]

theorem tailOk_head {D : Str} (h : tailOk D = true) : ∀ c, D.head? = some c → isReSpace c = true := by
  rintro c hc
  cases D with
  | nil => cases hc
  | cons d t => cases hc; simp only [tailOk, Bool.and_eq_true] at h; exact h.1

/-- what `render` puts after the name or the closing parenthesis (nothing, or `gap ++ desc`) is an acceptable tail
    and yields the description back; the hypothesis is the clause of `WF` as written -/
theorem tailOk_rendered (gap desc : Str)
    (h : (desc.isEmpty || (!gap.isEmpty && gap.all isReSpace &&
          (match desc with | [] => true | c :: _ => !isReSpace c))) = true) :
    tailOk (if desc.isEmpty then [] else gap ++ desc) = true ∧
    tailDesc (if desc.isEmpty then [] else gap ++ desc) = desc := by
  cases desc with
  | nil => exact ⟨rfl, rfl⟩
  | cons d ds =>
    cases gap with
    | nil => simp at h
    | cons g gs =>
      simp only [List.isEmpty_cons, Bool.false_or, Bool.not_false, Bool.true_and, Bool.and_eq_true,
        Bool.not_eq_true'] at h
      obtain ⟨hgap, hd⟩ := h
      have hdrop : dropSpaces (g :: (gs ++ d :: ds)) = d :: ds :=
        dropSpaces_eq_of (ws := g :: gs) hgap (not_starts_cons hd ds)
      rw [List.all_cons, Bool.and_eq_true] at hgap
      exact ⟨by simp [tailOk, hgap.1, hdrop], hdrop⟩

theorem tryJson_sound (r2 j tl : Str) (skip : Nat) (h : tryJson r2 = some (j, tl, skip)) :
    j.head? = some '{' ∧ j.getLast? = some '}' ∧ tailOk tl = true ∧
    ∃ s1 s2, s1.all isReSpace = true ∧ s2.all isReSpace = true ∧ r2 = s1 ++ ',' :: (s2 ++ (j ++ ')' :: tl)) := by
  obtain ⟨s1, hs1, hr2⟩ := dropSpaces_split r2
  unfold tryJson at h
  cases hd : dropSpaces r2 with
  | nil => rw [hd] at h; cases h
  | cons c r4 =>
    obtain ⟨s2, hs2, hr4⟩ := dropSpaces_split r4
    simp only [hd, Option.ite_none_right_eq_some, Option.map_eq_some_iff, Prod.mk.injEq, Prod.exists] at h
    obtain ⟨rfl, hhead, a, b, hpc, rfl, rfl, -⟩ := h
    obtain ⟨e1, e2, e3⟩ := pickClose_sound _ _ _ hpc
    refine ⟨?_, e2, e3, s1, s2, hs1, hs2, by rw [hr2, hd, hr4, e1]⟩
    rw [e1] at hhead
    cases a with
    | nil => cases e2
    | cons x xs => exact hhead

theorem tryJson_none_of_paren (D : Str) : tryJson (')' :: D) = none := by
  simp [tryJson, dropSpaces, isReSpace]

theorem tryJson_intended (sep1 sep2 j D : Str) (h1 : sep1.all isReSpace = true) (h2 : sep2.all isReSpace = true)
    (hh : j.head? = some '{') (hl : j.getLast? = some '}') (hD : tailOk D = true) (hnone : pickClose D = none) :
    ∃ skip, tryJson (sep1 ++ ',' :: (sep2 ++ (j ++ ')' :: D))) = some (j, D, skip) := by
  cases j with
  | nil => cases hh
  | cons x xs =>
    cases hh
    have e1 := dropSpaces_eq_of h1 (not_starts_cons (p := isReSpace) (c := ',') rfl (sep2 ++ '{' :: (xs ++ ')' :: D)))
    have e2 := dropSpaces_eq_of h2 (not_starts_cons (p := isReSpace) (c := '{') rfl (xs ++ ')' :: D))
    have e3 := pickClose_intended _ D hl hD hnone
    rw [List.cons_append] at e3
    simp [tryJson, e1, e2, e3]

theorem parseTrimmed_pfx (name R : Str) (hn : name ≠ []) (hw : name.all isReWord = true)
    (hR : ∀ c, R.head? = some c → isReWord c = false) :
    parseTrimmed (pfx ++ (name ++ R)) = parseRest name R := by
  simp [parseTrimmed, hasPrefix_append, span_eq_of hw hR, hn]

theorem parseRest_of_tailOk (name D : Str) (h : tailOk D = true) :
    parseRest name D = some ⟨name, [], [], tailDesc D, none, none⟩ := by
  cases D with
  | nil => rfl
  | cons c t =>
    have hc := tailOk_head h c rfl
    simp [parseRest, reSpace_ne_paren c hc, hc, h]

theorem parseRest_paren (name r1 : Str) :
    parseRest name ('(' :: r1) = parseParen name (pfx.length + name.length + 1) r1 := by
  simp [parseRest]

theorem parseParen_plain (name value D : Str) (v : Nat) (hv1 : value ≠ []) (hv2 : value.all isValueChar = true)
    (hD : tailOk D = true) :
    (parseParen name v (value ++ ')' :: D)).map RawAttr.core = some (name, value, [], tailDesc D) := by
  unfold parseParen
  rw [span_eq_of hv2 (not_starts_cons (c := ')') rfl D)]
  simp [hv1, tryJson_none_of_paren, hD, RawAttr.core]

theorem parseParen_json (name value sep1 sep2 json D : Str) (v : Nat)
    (hv1 : value ≠ []) (hv2 : value.all isValueChar = true)
    (hs1 : sep1.all isReSpace = true) (hs2 : sep2.all isReSpace = true)
    (hs1h : ∀ c, sep1.head? = some c → isValueChar c = false)
    (hh : json.head? = some '{') (hl : json.getLast? = some '}') (hD : tailOk D = true) (hamb : pickClose D = none) :
    (parseParen name v (value ++ (sep1 ++ ',' :: (sep2 ++ (json ++ ')' :: D))))).map RawAttr.core
      = some (name, value, json, tailDesc D) := by
  have hhead : ∀ c, (sep1 ++ ',' :: (sep2 ++ (json ++ ')' :: D))).head? = some c → isValueChar c = false := by
    cases sep1 with
    | nil => exact not_starts_cons rfl _
    | cons x xs => exact hs1h
  obtain ⟨skip, htj⟩ := tryJson_intended sep1 sep2 json D hs1 hs2 hh hl hD hamb
  unfold parseParen
  rw [span_eq_of hv2 hhead]
  simp [htj, hv1, RawAttr.core]

end Gleece.Annot
