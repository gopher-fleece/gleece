/-
  C13 / C19: `GetIdForKey` (`getId`) keeps the memo well-formed and is memoised; the insertion sort standing for
  `slices.Sort` returns a sorted permutation, and sorted permutations of one another are equal.
-/
import Gleece.Model.Session
namespace Gleece.Session

/-- a memo is well-formed when its ids are below `next` (so fresh ids never collide) -/
def Memo.WF (m : Memo) : Prop := ∀ p ∈ m.table, p.2 < m.next

theorem getId_wf (m : Memo) (k : Nat) (h : m.WF) : (getId m k).2.WF := by
  fun_cases getId m k with
  | case1 _ id hf => exact h
  | case2 hf =>
    intro q hq
    rcases List.mem_append.1 hq with hq | hq
    · exact Nat.lt_succ_of_lt (h q hq)
    · cases List.eq_of_mem_singleton hq; exact Nat.lt_succ_self _

/-- once a key has been seen, asking again returns the same id and changes nothing -/
theorem getId_memo (m : Memo) (k : Nat) : getId (getId m k).2 k = ((getId m k).1, (getId m k).2) := by
  fun_cases getId m k with
  | case1 _ id hf => unfold getId; rw [hf]
  | case2 hf => unfold getId; rw [List.find?_append, hf]; simp

/-- a key already in the table keeps its id whatever else is asked afterwards -/
theorem getId_preserves (m : Memo) (k k' : Nat) (id : Nat) (h : m.table.find? (fun p => decide (p.1 = k)) = some (k, id)) :
    (getId m k').2.table.find? (fun p => decide (p.1 = k)) = some (k, id) := by
  fun_cases getId m k' with
  | case1 _ id' hf => exact h
  | case2 hf => simp only; rw [List.find?_append, h]; rfl

theorem insertSorted_perm (x : Nat) (l : List Nat) : (insertSorted x l).Perm (x :: l) := by
  fun_induction insertSorted x l with
  | case1 => exact .refl _
  | case2 y ys hxy => exact .refl _
  | case3 y ys hxy ih => exact (ih.cons y).trans (.swap x y ys)

theorem sortNat_perm (l : List Nat) : (sortNat l).Perm l := by
  induction l with
  | nil => exact List.Perm.refl _
  | cons x xs ih => exact (insertSorted_perm x (sortNat xs)).trans (List.Perm.cons x ih)

theorem insertSorted_sorted (x : Nat) (l : List Nat) (h : l.Pairwise (· ≤ ·)) : (insertSorted x l).Pairwise (· ≤ ·) := by
  fun_induction insertSorted x l with
  | case1 => exact List.pairwise_singleton _ _
  | case2 y ys hxy =>
    exact List.pairwise_cons.2 ⟨fun z hz => (List.mem_cons.1 hz).elim (· ▸ hxy)
      fun hz => Nat.le_trans hxy ((List.pairwise_cons.1 h).1 z hz), h⟩
  | case3 y ys hxy ih =>
    have ⟨hy, hys⟩ := List.pairwise_cons.1 h
    refine List.pairwise_cons.2 ⟨fun z hz => ?_, ih hys⟩
    rcases List.mem_cons.1 ((insertSorted_perm x ys).mem_iff.1 hz) with rfl | hz
    · exact Nat.le_of_not_le hxy
    · exact hy z hz

theorem sortNat_sorted : ∀ l : List Nat, (sortNat l).Pairwise (· ≤ ·)
  | [] => List.Pairwise.nil
  | x :: xs => insertSorted_sorted x _ (sortNat_sorted xs)

/-- two sorted permutations of each other are equal -/
theorem sorted_perm_eq {l₁ l₂ : List Nat} (h1 : l₁.Pairwise (· ≤ ·)) (h2 : l₂.Pairwise (· ≤ ·)) (hp : l₁.Perm l₂) :
    l₁ = l₂ :=
  hp.eq_of_pairwise (fun _ _ _ _ => Nat.le_antisymm) h1 h2

end Gleece.Session
