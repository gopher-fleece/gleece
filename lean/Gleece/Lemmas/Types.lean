/-
  C07 — what `lookup`, `expand`, `isClosed` and `closure` compute, as statements about membership; the closure
  yields only reachable names (`closure_reach`), a closed set holds all of them (`closed_contains_reach`), and the
  fuel `ds.length + 1` always reaches a closed set (`closure_closed`).
-/
import Gleece.Model.Types
import Gleece.Lemmas.Iterate
namespace Gleece.Types

theorem of_lookup_eq_some {ds : List Decl} {n : TName} {d : Decl} (h : lookup ds n = some d) : d ∈ ds ∧ d.name = n :=
  ⟨List.mem_of_find?_eq_some h, by simpa using List.find?_some h⟩

theorem mem_expand {ds : List Decl} {s : List TName} {n : TName} :
    n ∈ expand ds s ↔ n ∈ s ∨ ∃ m ∈ s, ∃ d, lookup ds m = some d ∧ n ∈ d.refs := by
  simp only [expand, List.mem_eraseDups, List.mem_append, List.mem_flatMap]
  refine or_congr Iff.rfl (exists_congr fun m => and_congr Iff.rfl ?_)
  cases lookup ds m <;> simp

theorem isClosed_iff {ds : List Decl} {s : List TName} :
    isClosed ds s = true ↔ ∀ m ∈ s, ∀ d, lookup ds m = some d → ∀ n ∈ d.refs, n ∈ s := by
  simp only [isClosed, List.all_eq_true]
  refine forall_congr' fun m => imp_congr_right fun _ => ?_
  cases lookup ds m with
  | none => simp only [reduceCtorEq, false_imp_iff, implies_true]
  | some d => simp only [List.all_eq_true, List.contains_iff_mem, Option.some.injEq, forall_eq']

theorem subset_expand {ds : List Decl} {s : List TName} {n : TName} (h : n ∈ s) : n ∈ expand ds s :=
  mem_expand.2 (Or.inl h)

theorem closure_eq_iter (ds : List Decl) : ∀ (k : Nat) (s : List TName), closure ds k s = iter (expand ds) k s
  | 0, _ => rfl
  | k + 1, _ => closure_eq_iter ds k _

theorem subset_closure {ds : List Decl} (k : Nat) {s : List TName} {n : TName} (h : n ∈ s) : n ∈ closure ds k s :=
  closure_eq_iter ds k s ▸ iter_inv (P := (n ∈ ·)) (fun _ => subset_expand) k h

/-- every member of the computed closure is reachable, provided every starting member is -/
theorem closure_reach {ds : List Decl} {roots : List TName} (k : Nat) (s : List TName)
    (hs : ∀ n ∈ s, Reach ds roots n) : ∀ n ∈ closure ds k s, Reach ds roots n := by
  refine closure_eq_iter ds k s ▸ iter_inv (P := fun s => ∀ n ∈ s, Reach ds roots n) (fun s hs n hn => ?_) k hs
  rcases mem_expand.1 hn with h | ⟨m, hm, d, hl, h⟩
  · exact hs n h
  · exact (hs m hm).step hl h

/-- a closed set containing the roots contains everything reachable -/
theorem closed_contains_reach {ds : List Decl} {roots s : List TName}
    (hr : ∀ n ∈ roots, n ∈ s) (hc : isClosed ds s = true) {n : TName} (h : Reach ds roots n) : n ∈ s := by
  induction h with
  | root h => exact hr _ h
  | step _ hl hn ih => exact isClosed_iff.1 hc _ ih _ hl _ hn

/-! ### fuel: `ds.length + 1` rounds of `expand` reach a closed set, whatever the declarations and the roots
    (references need not be declared).  A round either adds a declared name, of which there are `ds.length` at most,
    or leaves a closed set: its declared members were all there before the round, so the round has added what they
    mention, and the other members mention nothing (`closed_after_stall`).  Closed sets stay closed; `iter_fuel_within`
    does the counting. -/

/-- the names of `base` that occur in `s` -/
def declaredIn (base s : List TName) : List TName := base.filter fun n => s.contains n

theorem mem_declaredIn {base s : List TName} {n : TName} : n ∈ declaredIn base s ↔ n ∈ base ∧ n ∈ s := by
  simp [declaredIn]

theorem declaredIn_mono {base s t : List TName} (h : ∀ n ∈ s, n ∈ t) :
    ∀ n ∈ declaredIn base s, n ∈ declaredIn base t :=
  fun n hn => mem_declaredIn.2 ⟨(mem_declaredIn.1 hn).1, h n (mem_declaredIn.1 hn).2⟩

theorem closed_after_stall (ds : List Decl) (s : List TName)
    (hst : ∀ n ∈ ds.map (·.name), n ∈ expand ds s → n ∈ s) : isClosed ds (expand ds s) = true :=
  isClosed_iff.2 fun m hm d hl _ hn =>
    have hms : m ∈ s := hst m (List.mem_map.2 ⟨d, of_lookup_eq_some hl⟩) hm
    mem_expand.2 (.inr ⟨m, hms, d, hl, hn⟩)

theorem closed_expand (ds : List Decl) (s : List TName) (h : isClosed ds s = true) : isClosed ds (expand ds s) = true :=
  closed_after_stall ds s fun n _ hn =>
    (mem_expand.1 hn).elim id fun ⟨m, hm, d, hl, hr⟩ => isClosed_iff.1 h m hm d hl n hr

theorem closure_closed_of_lt (ds : List Decl) (roots : List TName) {k : Nat} (hk : ds.length < k) :
    isClosed ds (closure ds k roots) = true :=
  closure_eq_iter ds k roots ▸ iter_fuel_within (ds.map (·.name)) (fun _ _ => subset_expand) (closed_after_stall ds)
    (closed_expand ds) k roots (by rw [List.length_map]; exact hk)

/-- **fuel sufficiency**: `ds.length + 1` rounds always reach a closed set -/
theorem closure_closed (ds : List Decl) (roots : List TName) :
    isClosed ds (closure ds (ds.length + 1) roots) = true :=
  closure_closed_of_lt ds roots (Nat.lt_succ_self _)

end Gleece.Types
