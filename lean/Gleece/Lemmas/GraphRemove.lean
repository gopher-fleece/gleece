/-
  C17: `removeNode` (the eviction cascade) preserves the index-consistency invariant, never adds
  an edge, and leaves no edge touching the removed node.
  Both loops are folds whose invariant speaks of the input still to come: every edge into (out of) the
  node comes from a dependent (is a snapshot edge) not yet processed.
-/
import Gleece.Lemmas.Graph
import Gleece.Lemmas.Iterate
namespace Gleece.Graph

/-- what one step of a removal loop guarantees relative to the state it started from -/
structure Shrinks (g g' : G) : Prop where
  inv : Inv g'
  sub : ∀ e ∈ g'.edges, e ∈ g.edges
  nodes : ∀ n ∈ g'.nodes, n ∈ g.nodes

theorem Shrinks.refl {g : G} (inv : Inv g) : Shrinks g g := ⟨inv, fun _ h => h, fun _ h => h⟩

theorem Shrinks.trans {a b c : G} (h1 : Shrinks a b) (h2 : Shrinks b c) : Shrinks a c :=
  ⟨h2.inv, fun e he => h1.sub e (h2.sub e he), fun n hn => h1.nodes n (h2.nodes n hn)⟩

theorem shrinks_removeEdge {g : G} (inv : Inv g) (f t : Key) (kind : Option String) :
    Shrinks g (removeEdge g f t kind) :=
  ⟨inv_removeEdge inv f t kind, fun e he => (mem_removeEdge_edges.1 he).1, by rw [removeEdge_nodes]; exact fun _ h => h⟩

/-- the final clean-up of `RemoveNode` (`delete(g.deps, id)`, `delete(g.revDeps, id)`, `delete(g.nodes, id)`)
    keeps the invariant when no edge touches `id` -/
theorem inv_cleanup {g : G} (inv : Inv g) (id : Nat)
    (hfrom : ∀ e ∈ g.edges, e.src.base ≠ id) (hto : ∀ e ∈ g.edges, e.dst.base ≠ id) :
    Inv { g with deps := g.deps.filter (·.1 ≠ id), revDeps := g.revDeps.filter (·.1 ≠ id),
                 nodes := g.nodes.filter (·.key.base ≠ id) } := by
  refine inv.of_sublist (List.Sublist.refl _) rfl (fun a b => ?_) (fun a b => ?_)
  · rw [depHas_eq, has_filter (fun a _ => a ≠ id) fun _ => decide_eq_true_iff, ← depHas_eq, inv.dep]
    exact and_iff_left_of_imp fun ⟨e, he, h, _⟩ => h ▸ hfrom e he
  · rw [revHas_eq, has_filter (fun b _ => b ≠ id) fun _ => decide_eq_true_iff, ← revHas_eq, inv.rev]
    exact and_iff_left_of_imp fun ⟨e, he, _, h⟩ => h ▸ hto e he

/-- the loop over the snapshot of outgoing edges -/
theorem outgoing_loop (key : Key) (g : G) (inv : Inv g) (hto : ∀ e ∈ g.edges, e.dst.base ≠ key.base) :
    let g' := (g.edges.filter (·.src.base = key.base)).foldl (fun g e => removeEdge g key e.dst (some e.kind)) g
    Shrinks g g' ∧ ∀ e ∈ g'.edges, e.src.base ≠ key.base ∧ e.dst.base ≠ key.base := by
  have := foldl_induct (f := fun g e => removeEdge g key e.dst (some e.kind))
    (fun rest g' => Shrinks g g' ∧ ∀ e ∈ g'.edges, e.src.base = key.base → e ∈ rest) ?step _ g
    ⟨Shrinks.refl inv, fun e he hs => List.mem_filter.2 ⟨he, decide_eq_true hs⟩⟩
  · exact ⟨this.1, fun e he => ⟨fun hs => (nomatch this.2 e he hs), hto e (this.1.sub e he)⟩⟩
  case step =>
    intro x rest g' ⟨s, h⟩
    refine ⟨s.trans (shrinks_removeEdge s.inv _ _ _), fun e he hs => ?_⟩
    obtain ⟨he', hr⟩ := mem_removeEdge_edges.1 he
    rcases List.mem_cons.1 (h e he' hs) with rfl | hrest
    · exact absurd ⟨hs, rfl, decide_eq_true rfl⟩ hr
    · exact hrest

/-- `RemoveNode`, by induction along its own recursion -/
theorem removeNode_shrinks (fuel : Nat) (g : G) (key : Key) : ∀ (g' : G), Inv g →
    removeNode fuel g key = some g' →
    Shrinks g g' ∧ (g.hasNode key.base = true → ∀ e ∈ g'.edges, e.src.base ≠ key.base ∧ e.dst.base ≠ key.base) := by
  fun_induction removeNode fuel g key with
  | case1 g key => exact fun _ _ h => nomatch h
  | case2 fuel g key id hno =>
    intro g' inv h
    cases h
    exact ⟨Shrinks.refl inv, fun hyes => absurd hyes (by simpa [id] using hno)⟩
  | case3 fuel g key id hyes dependents g1o ih =>
    intro g' inv h
    obtain ⟨g1, hdep, rfl⟩ := Option.map_eq_some_iff.1 h
    -- the dependents loop: every edge into `key` comes from a dependent still to be processed
    have := foldl_bind_induct
      (fun rest g' => Shrinks g g' ∧ ∀ e ∈ g'.edges, e.dst.base = key.base → ∃ fk ∈ rest, fk.base = e.src.base)
      ?step _ g g1 ⟨Shrinks.refl inv, fun e he hd => ?start⟩ hdep
    · obtain ⟨s1, hto1⟩ := this
      obtain ⟨s2, h2⟩ := outgoing_loop key g1 s1.inv fun e he hd => nomatch hto1 e he hd
      exact ⟨⟨inv_cleanup s2.inv key.base (fun e he => (h2 e he).1) (fun e he => (h2 e he).2),
        fun e he => s1.sub e (s2.sub e he), fun n hn => s1.nodes n (s2.nodes n (List.mem_filter.1 hn).1)⟩, fun _ => h2⟩
    case step =>
      intro fk rest g0 gm ⟨s0, h0⟩ hstep
      have se := shrinks_removeEdge s0.inv fk key none
      have sm : Shrinks (removeEdge g0 fk key none) gm := by
        simp only at hstep
        split at hstep
        · exact (ih fk g0 _ se.inv hstep).1
        · cases hstep; exact Shrinks.refl se.inv
      refine ⟨s0.trans (se.trans sm), fun e he hd => ?_⟩
      obtain ⟨he', hr⟩ := mem_removeEdge_edges.1 (sm.sub e he)
      obtain ⟨fk', hfk', hb⟩ := h0 e he' hd
      rcases List.mem_cons.1 hfk' with rfl | hrest
      · exact absurd ⟨hb.symm, hd, rfl⟩ hr
      · exact ⟨fk', hrest, hb⟩
    case start =>
      obtain ⟨d, hdm, hd2⟩ := List.mem_map.1 (inv.mem_recordedParents.2 ⟨e, he, rfl, hd⟩)
      exact ⟨d.2, List.mem_map.2 ⟨d, hdm, rfl⟩, hd2⟩

end Gleece.Graph
