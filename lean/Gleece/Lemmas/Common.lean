/- the loop of `commonValidate`: it reports no error iff every annotation passes its own checks against the names up to
   and including its own (the loop counts an annotation before it tests exclusion) and the values that came before it
   (C10; used by `Properties/C10Common.lean` and by the cross-layer theorems of `Properties/Link.lean`) -/
import Gleece.Model.Validate
namespace Gleece.Validate

theorem hasError_nil : hasError [] = false := rfl
theorem hasError_warn (c : String) : hasError [warn c] = false := rfl
theorem hasError_err (c : String) : hasError [err c] = true := rfl
theorem hasError_cons_err (c : String) (l : List Diag) : hasError (err c :: l) = true := rfl
theorem hasError_append (a b : List Diag) : hasError (a ++ b) = (hasError a || hasError b) := List.any_append

theorem lookupDef_row {n : String} {d : AnnotDef} (h : lookupDef n = some d) :
    ∃ r ∈ Gleece.Generated.annotTable, r.1 = n ∧ d.mutuallyExclusive = r.2.2.2.2.2.2.1 ∧ d.requiresUniqueValue = r.2.2.2.2.2.2.2 := by
  obtain ⟨r, hf, rfl⟩ := Option.map_eq_some_iff.1 h
  have hn := List.find?_some hf
  exact ⟨r, List.mem_of_find?_eq_some hf, of_decide_eq_true hn, rfl, rfl⟩

/-- the count the loop keeps for the name `n`; `commonValidate.go` writes this lookup out inline (for its `cnt` and in its local
    `countOf`), and `commonValidate_go_cons` unfolds the definition to meet it -/
def countOf (counts : List (String × Nat)) (n : String) : Nat := ((counts.find? (·.1 = n)).map (·.2)).getD 0

theorem countOf_step_self (counts : List (String × Nat)) (n : String) (c : Nat) :
    countOf (counts.filter (·.1 ≠ n) ++ [(n, c)]) n = c := by
  have : (counts.filter (·.1 ≠ n)).find? (·.1 = n) = none :=
    List.find?_eq_none.2 fun p hp e => of_decide_eq_true (List.mem_filter.1 hp).2 (of_decide_eq_true e)
  rw [countOf, List.find?_append, this, List.find?_singleton, if_pos (decide_eq_true rfl)]
  rfl

theorem countOf_step_other (counts : List (String × Nat)) (n m : String) (c : Nat) (h : m ≠ n) :
    countOf (counts.filter (·.1 ≠ n) ++ [(n, c)]) m = countOf counts m := by
  have hp : (fun p : String × Nat => decide (decide (p.1 ≠ n) = true ∧ decide (p.1 = m) = true)) = (fun p => decide (p.1 = m)) :=
    funext fun p => decide_eq_decide.2 ⟨fun h' => of_decide_eq_true h'.2, fun e => ⟨decide_eq_true (e ▸ h), decide_eq_true e⟩⟩
  rw [countOf, List.find?_append, List.find?_filter, hp, List.find?_singleton,
    if_neg fun e => h (of_decide_eq_true e).symm, Option.or_none]
  rfl

/-- the names the loop has counted so far, and those of `l` -/
def seenName (counts : List (String × Nat)) (l : List Annot) (n : String) : Prop := 0 < countOf counts n ∨ ∃ b ∈ l, b.name = n
/-- the values the loop remembers so far, and those of `l` -/
def seenValue (uniq : List String) (l : List Annot) (v : String) : Prop := v ∈ uniq ∨ ∃ b ∈ l, b.value = v

theorem seenName_nil (counts : List (String × Nat)) : seenName counts [] = fun n => 0 < countOf counts n :=
  funext fun _ => propext (or_iff_left fun ⟨_, h, _⟩ => nomatch h)
theorem seenValue_nil (uniq : List String) : seenValue uniq [] = (· ∈ uniq) :=
  funext fun _ => propext (or_iff_left fun ⟨_, h, _⟩ => nomatch h)

theorem seenName_step (counts : List (String × Nat)) (x : Annot) (c : Nat) (l : List Annot) :
    seenName (counts.filter (·.1 ≠ x.name) ++ [(x.name, c + 1)]) l = seenName counts (x :: l) := by
  funext n
  by_cases h : n = x.name
  · subst h
    simp only [seenName, countOf_step_self, Nat.succ_pos, true_or, List.mem_cons, exists_eq_or_imp, or_true]
  · simp only [seenName, countOf_step_other _ _ _ _ h, List.mem_cons, exists_eq_or_imp, Ne.symm h, false_or]

theorem seenValue_step (uniq : List String) (x : Annot) (l : List Annot) :
    seenValue (uniq ++ [x.value]) l = seenValue uniq (x :: l) := by
  funext v
  simp only [seenValue, List.mem_append, List.mem_cons, List.not_mem_nil, false_or, exists_eq_or_imp, or_assoc, @eq_comm _ v]

/-- what the loop checks of one annotation, given the names and the values it has seen (the status code is looked at in
    the `else` of the test for @Method); the fields are those of `AnnotsWellFormed` -/
structure StepOk (named used : String → Prop) (a : Annot) : Prop where
  known : (lookupDef a.name).isSome = true
  valued : ∀ d, lookupDef a.name = some d → d.requiresValue = true → a.value.isEmpty = false
  exclusive : ∀ d, lookupDef a.name = some d → ∀ x ∈ d.mutuallyExclusive, ¬ named x
  unique : requiresUnique a = true → a.value.isEmpty = false → ¬ used a.value
  verb : a.name = "Method" → Gleece.Generated.routeSupportedHttpVerbs.contains a.value = true
  status : ¬ a.name = "Method" → a.name = "Response" ∨ a.name = "ErrorResponse" →
    ∃ n, Gleece.Text.parseUint a.value = some n ∧ n < 4294967296

theorem stepOk_iff {named used : String → Prop} {a : Annot} : StepOk named used a ↔
    (lookupDef a.name).isSome = true ∧
    (∀ d, lookupDef a.name = some d → d.requiresValue = true → a.value.isEmpty = false) ∧
    (∀ d, lookupDef a.name = some d → ∀ x ∈ d.mutuallyExclusive, ¬ named x) ∧
    (requiresUnique a = true → a.value.isEmpty = false → ¬ used a.value) ∧
    (a.name = "Method" → Gleece.Generated.routeSupportedHttpVerbs.contains a.value = true) ∧
    (¬ a.name = "Method" → a.name = "Response" ∨ a.name = "ErrorResponse" →
      ∃ n, Gleece.Text.parseUint a.value = some n ∧ n < 4294967296) :=
  ⟨fun s => ⟨s.known, s.valued, s.exclusive, s.unique, s.verb, s.status⟩, fun ⟨a, b, c, d, e, f⟩ => ⟨a, b, c, d, e, f⟩⟩

theorem hasError_ite {c : Prop} [Decidable c] {x y : List Diag} :
    hasError (if c then x else y) = false ↔ (c → hasError x = false) ∧ (¬ c → hasError y = false) := by
  split <;> simp only [*, true_imp_iff, false_imp_iff, not_true_eq_false, not_false_eq_true, and_true, true_and]

theorem commonValidate_eq (source : String) (as : List Annot) : commonValidate source as = commonValidate.go source as [] [] := rfl

/-- **one turn of the loop**: the head passes its checks against the accumulators, and the loop goes on -/
theorem commonValidate_go_cons (source : String) (a : Annot) (rest : List Annot) (counts : List (String × Nat)) (uniq : List String) :
    hasError (commonValidate.go source (a :: rest) counts uniq) = false ↔
      StepOk (seenName (counts.filter (·.1 ≠ a.name) ++ [(a.name, countOf counts a.name + 1)]) []) (seenValue uniq []) a ∧
      hasError (commonValidate.go source rest (counts.filter (·.1 ≠ a.name) ++ [(a.name, countOf counts a.name + 1)]) (uniq ++ [a.value])) = false := by
  cases hd : lookupDef a.name with
  | none => simp only [commonValidate.go, stepOk_iff, hd, hasError_cons_err, Option.isSome_none, Bool.false_eq_true, Bool.true_eq_false, false_and]
  | some d =>
    -- every group is an `if`, which `hasError_ite` reads off, and `countOf` unfolds to the lookup the model writes out; that leaves
    --   V ∧ W ∧ X ∧ U ∧ M ∧ (.. → S) ∧ R ↔ V ∧ X ∧ U ∧ M ∧ (.. → S') ∧ R
    -- V valued, X exclusive, U unique, M verb, R the rest of the loop; W: the checks of the properties report no error (they only
    -- warn); S: nor do those of the status code, still a `match` on `parseUint`; S': the status code parses to a 32-bit number
    simp only [commonValidate.go, hd, seenName_nil, seenValue_nil, stepOk_iff, requiresUnique, countOf, Option.isSome_some, Option.some.injEq,
      forall_eq', hasError_append, hasError_ite, hasError_nil, hasError_warn, hasError_err, Bool.or_eq_false_iff, Bool.true_eq_false,
      Bool.and_eq_true, Bool.or_eq_true, Bool.not_eq_true, Bool.not_eq_true', List.any_eq_true, List.contains_iff_mem, decide_eq_true_eq, gt_iff_lt,
      implies_true, imp_false, and_self, true_and, and_true, and_assoc, not_and, not_and_self, not_exists, Decidable.not_not]
    refine and_congr_right' <|                                      -- V
      (and_iff_right fun _ _ => ?warn).trans <|                     -- W holds
      and_congr_right' <| and_congr_right' <| and_congr_right' <|   -- X, U, M
      and_congr_left' <| imp_congr_right fun _ => imp_congr_right fun _ => ?status  -- R stays; S ↔ S' under its two conditions
    case warn =>
      split
      next w ho =>
        obtain ⟨x, _, hx⟩ := List.exists_of_findSome?_eq_some ho
        split at hx
        · cases hx; rfl
        · split at hx <;> cases hx
          rfl
      next => rfl
    case status =>
      cases Gleece.Text.parseUint a.value with
      | none => simp only [hasError_err, Bool.true_eq_false, reduceCtorEq, false_and, exists_false]
      | some n => simp only [hasError_ite, hasError_nil, hasError_warn, hasError_err, implies_true, and_self, true_and, Bool.true_eq_false,
          imp_false, Decidable.not_not, Option.some.injEq, exists_eq_left']

theorem forall_split_nil {α} {P : List α → α → Prop} (p : List α) (a : α) (q : List α) (hs : [] = p ++ a :: q) : P p a := by
  cases p <;> cases hs

theorem forall_split_cons {α} {x : α} {rest : List α} {P : List α → α → Prop} :
    (∀ p a q, x :: rest = p ++ a :: q → P p a) ↔ P [] x ∧ ∀ p a q, rest = p ++ a :: q → P (x :: p) a := by
  refine ⟨fun h => ⟨h [] x rest rfl, fun p a q hs => h (x :: p) a q (hs ▸ rfl)⟩, fun ⟨h0, h1⟩ p a q hs => ?_⟩
  cases p with
  | nil => cases hs; exact h0
  | cons y p => cases hs; exact h1 p a q rfl

/-- **the loop reports no error exactly when every annotation passes its checks against the names so far, its own
    included, and the values before it**
    (the accumulators `counts`, `uniq` enter as they are: no invariant is needed) -/
theorem commonValidate_go_iff (source : String) (rest : List Annot) (counts : List (String × Nat)) (uniq : List String) :
    hasError (commonValidate.go source rest counts uniq) = false ↔
      ∀ p a q, rest = p ++ a :: q → StepOk (seenName counts (p ++ [a])) (seenValue uniq p) a := by
  induction rest generalizing counts uniq with
  | nil => exact ⟨fun _ => forall_split_nil, fun _ => rfl⟩
  | cons x rest ih =>
    rw [commonValidate_go_cons, forall_split_cons, ih]
    simp only [seenName_step, seenValue_step, List.nil_append, List.cons_append]

/-- what an error-free run of the validator's loop establishes, given that every earlier annotation is counted and
    every earlier value is remembered -/
theorem commonValidate_go_sound (source : String) (pre rest : List Annot) (counts : List (String × Nat)) (uniq : List String)
    (hc : ∀ b ∈ pre, countOf counts b.name > 0) (hu : ∀ b ∈ pre, b.value ∈ uniq)
    (h : hasError (commonValidate.go source rest counts uniq) = false) :
    (∀ a ∈ rest, (lookupDef a.name).isSome = true) ∧
    (∀ a ∈ rest, ∀ d, lookupDef a.name = some d → d.requiresValue = true → a.value.isEmpty = false) ∧
    (∀ p a q, rest = p ++ a :: q → ∀ d, lookupDef a.name = some d → ∀ x ∈ d.mutuallyExclusive, ∀ b ∈ pre ++ p ++ [a], b.name ≠ x) ∧
    (∀ p a q, rest = p ++ a :: q → requiresUnique a = true → a.value.isEmpty = false → ∀ b ∈ pre ++ p, b.value ≠ a.value) ∧
    (∀ a ∈ rest, a.name = "Method" → Gleece.Generated.routeSupportedHttpVerbs.contains a.value = true) ∧
    (∀ a ∈ rest, a.name = "Response" ∨ a.name = "ErrorResponse" → ∃ n, Gleece.Text.parseUint a.value = some n ∧ n < 4294967296) := by
  have H := (commonValidate_go_iff source rest counts uniq).1 h
  have every : ∀ {P : Annot → Prop}, (∀ {N V a}, StepOk N V a → P a) → ∀ a ∈ rest, P a :=
    fun hP a ha => let ⟨p, q, hs⟩ := List.append_of_mem ha; hP (H p a q hs)
  refine ⟨every StepOk.known, every StepOk.valued,
    fun p a q hs d hd x hx b hb hbx => (H p a q hs).exclusive d hd x hx ?_,
    fun p a q hs hr hne b hb hbv => (H p a q hs).unique hr hne ?_,
    every StepOk.verb,
    every fun s hr => s.status (fun hm => by simp only [hm, String.reduceEq, or_self] at hr) hr⟩
  · rw [List.append_assoc] at hb
    exact (List.mem_append.1 hb).elim (fun hb => .inl (hbx ▸ hc b hb)) fun hb => .inr ⟨b, hb, hbx⟩
  · exact (List.mem_append.1 hb).elim (fun hb => .inl (hbv ▸ hu b hb)) fun hb => .inr ⟨b, hb, hbv⟩

/-- an error-free run of the loop, from any state of the accumulators: every annotation is known, and one whose value must be
    unique repeats neither a remembered value nor an earlier one -/
theorem commonValidate_go_noerr (source : String) (as : List Annot) (counts : List (String × Nat)) (uniq : List String)
    (h : hasError (commonValidate.go source as counts uniq) = false) :
    (∀ a ∈ as, (lookupDef a.name).isSome = true) ∧
    (∀ pre a post, as = pre ++ a :: post → requiresUnique a = true → a.value.isEmpty = false →
        uniq.contains a.value = false ∧ ∀ b ∈ pre, b.value ≠ a.value) := by
  have H := (commonValidate_go_iff source as counts uniq).1 h
  refine ⟨fun a ha => let ⟨p, q, hs⟩ := List.append_of_mem ha; (H p a q hs).known, fun p a q hs hr hne => ?_⟩
  have hv := (H p a q hs).unique hr hne
  exact ⟨Bool.eq_false_iff.2 fun hc => hv (.inl (List.contains_iff_mem.1 hc)), fun b hb hbv => hv (.inr ⟨b, hb, hbv⟩)⟩

end Gleece.Validate
