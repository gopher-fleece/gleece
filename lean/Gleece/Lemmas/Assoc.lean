/- What `get?` reads from an association list built by `upsert` / `setAll` (`Model/Assoc.lean`).  Everything is
   stated through `get?`: a key is bound iff `(get? m k).isSome`. -/
import Gleece.Model.Assoc
namespace Gleece.Assoc

variable {κ : Type} {ν : Type} [DecidableEq κ]

theorem get?_cons (x : κ × ν) (m : List (κ × ν)) (k : κ) :
    get? (x :: m) k = if x.1 = k then some x.2 else get? m k := by
  unfold get?; rw [List.find?_cons]; by_cases h : x.1 = k <;> simp [h]

theorem get?_append (m n : List (κ × ν)) (k : κ) : get? (m ++ n) k = (get? m k).or (get? n k) := by
  unfold get?; rw [List.find?_append]; cases m.find? _ <;> rfl

theorem any_key (m : List (κ × ν)) (k : κ) : m.any (fun x => x.1 = k) = (get? m k).isSome := by
  induction m with
  | nil => rfl
  | cons x m ih => rw [get?_cons, List.any_cons, ih]; by_cases h : x.1 = k <;> simp [h]

theorem mem_of_get? {m : List (κ × ν)} {k : κ} {v : ν} (h : get? m k = some v) : (k, v) ∈ m := by
  obtain ⟨x, hx, rfl⟩ := Option.map_eq_some_iff.1 h
  have hk := List.find?_some hx
  exact of_decide_eq_true hk ▸ List.mem_of_find?_eq_some hx

theorem get?_replace (m : List (κ × ν)) (k k' : κ) (v : ν) :
    get? (m.map fun x => if x.1 = k then (k, v) else x) k' =
      if k' = k then (get? m k).map fun _ => v else get? m k' := by
  induction m with
  | nil => simp [get?]
  | cons x m ih =>
    rw [List.map_cons, get?_cons, get?_cons, get?_cons, ih]
    by_cases hk : k' = k
    · subst hk; by_cases hx : x.1 = k' <;> simp [hx]
    · by_cases hx : x.1 = k
      · simp [hx, hk, Ne.symm hk]
      · simp [hx, hk]

theorem get?_upsert (m : List (κ × ν)) (k k' : κ) (v : ν) :
    get? (upsert m k v) k' = if k' = k then some v else get? m k' := by
  unfold upsert
  rw [any_key]
  cases h : get? m k with
  | none =>
    rw [if_neg (by simp), get?_append, get?_cons]
    by_cases hk : k' = k
    · subst hk; simp [h]
    · simp [hk, Ne.symm hk, get?]
  | some w => rw [if_pos (by rfl), get?_replace, h]; rfl

/-- **last binding wins**: after setting a list of bindings in order, a key reads its LAST binding in the
    list, or the old map's binding when the list has none -/
theorem get?_setAll (m kvs : List (κ × ν)) (k : κ) :
    get? (setAll m kvs) k = (get? kvs.reverse k).or (get? m k) := by
  induction kvs generalizing m with
  | nil => rfl
  | cons kv kvs ih =>
    rw [setAll, List.foldl_cons, ← setAll, ih, get?_upsert, List.reverse_cons, get?_append, get?_cons, Option.or_assoc]
    by_cases hk : k = kv.1
    · subst hk; simp
    · simp [hk, Ne.symm hk, get?]

theorem get?_setAll_nil (kvs : List (κ × ν)) (k : κ) : get? (setAll [] kvs) k = get? kvs.reverse k :=
  (get?_setAll [] kvs k).trans Option.or_none

theorem keys_upsert (m : List (κ × ν)) (k : κ) (v : ν) (k' : κ) :
    (upsert m k v).any (fun x => x.1 = k') = (m.any (fun x => x.1 = k') || decide (k' = k)) := by
  rw [any_key, any_key, get?_upsert]
  by_cases hk : k' = k <;> simp [hk]

theorem upsert_of_get?_none {m : List (κ × ν)} {k : κ} (h : get? m k = none) (v : ν) :
    upsert m k v = m ++ [(k, v)] := by
  rw [upsert, any_key, h]; rfl

theorem get?_eq_some_iff {m : List (κ × ν)} (hm : (m.map (·.1)).Nodup) (k : κ) (v : ν) :
    get? m k = some v ↔ (k, v) ∈ m := by
  refine ⟨mem_of_get?, fun h => ?_⟩
  induction m with
  | nil => cases h
  | cons x m ih =>
    rw [List.map_cons, List.nodup_cons] at hm
    rw [get?_cons]
    rcases List.mem_cons.1 h with rfl | h
    · simp
    · rw [if_neg (fun e : x.1 = k => hm.1 (e ▸ List.mem_map_of_mem (f := (·.1)) h)), ih hm.2 h]

theorem get?_isSome {m : List (κ × ν)} {k : κ} : (get? m k).isSome = true ↔ k ∈ m.map (·.1) := by
  simp only [get?, Option.isSome_map, List.find?_isSome, List.mem_map, decide_eq_true_eq]

theorem get?_eq_none_iff {m : List (κ × ν)} {k : κ} : get? m k = none ↔ k ∉ m.map (·.1) := by
  rw [← Option.not_isSome_iff_eq_none, get?_isSome]

/-- with pairwise distinct keys nothing is ever replaced -/
theorem setAll_append_nodup (m kvs : List (κ × ν)) (h : ((m ++ kvs).map (·.1)).Nodup) :
    setAll m kvs = m ++ kvs := by
  induction kvs generalizing m with
  | nil => simp [setAll]
  | cons kv kvs ih =>
    have hk : get? m kv.1 = none := get?_eq_none_iff.2 fun hm => by
      rw [List.map_append, List.map_cons] at h
      exact (List.nodup_append.1 h).2.2 _ hm _ List.mem_cons_self rfl
    rw [setAll, List.foldl_cons, ← setAll, upsert_of_get?_none hk, ih, List.append_assoc]; rfl
    rwa [List.append_assoc]

theorem setAll_nodup (kvs : List (κ × ν)) (h : (kvs.map (·.1)).Nodup) : setAll [] kvs = kvs :=
  setAll_append_nodup [] kvs h

end Gleece.Assoc
