/-
  C17 — the eviction set of the plain specification (`Gleece.Graph.evictSet`) IS the least fixed point of the
  eviction rule: it contains the removed node, is closed under the rule ("a node all of whose dependencies
  lead into the set — or nowhere — and at least one of which leads into it, goes too"), every member other
  than the removed node satisfies the rule, and every closed set containing the removed node contains it.
  No assumption on the graph (duplicates, dangling edges, a removed node that is not a node): the fuel
  `|nodes| + 1` always suffices because every productive round covers one more entry of `nodes`.
-/
import Gleece.Model.Graph
import Gleece.Lemmas.Iterate
namespace Gleece.Graph

/-- the eviction rule for one node `x` against a set `r` -/
def evictable (a : A) (r : List Nat) (x : Nat) : Bool :=
  a.edges.any (fun e => e.src = x && r.contains e.dst) &&
  a.edges.all (fun e => !(e.src = x) || r.contains e.dst || !a.has e.dst)

theorem evictRound_eq (a : A) (r : List Nat) :
    evictRound a r = r ++ (a.nodes.map (·.1)).filter fun x => !r.contains x && evictable a r x := by
  unfold evictRound evictable
  congr 1
  apply List.filter_congr
  intro x _
  simp [Bool.and_assoc]

theorem mem_evictRound (a : A) (r : List Nat) (x : Nat) :
    x ∈ evictRound a r ↔ x ∈ r ∨ (x ∈ a.nodes.map (·.1) ∧ x ∉ r ∧ evictable a r x = true) := by
  simp only [evictRound_eq, List.mem_append, List.mem_filter, Bool.and_eq_true, Bool.not_eq_true', List.contains_eq_mem,
    decide_eq_false_iff_not]

theorem subset_evictRound (a : A) (r : List Nat) : ∀ x ∈ r, x ∈ evictRound a r :=
  fun x hx => (mem_evictRound a r x).2 (.inl hx)

theorem evictable_iff {a : A} {r : List Nat} {x : Nat} : evictable a r x = true ↔
    (∃ e ∈ a.edges, e.src = x ∧ e.dst ∈ r) ∧ ∀ e ∈ a.edges, e.src = x → e.dst ∈ r ∨ a.has e.dst = false := by
  simp only [evictable, Bool.and_eq_true, List.any_eq_true, List.all_eq_true, Bool.or_eq_true, Bool.not_eq_true',
    decide_eq_true_eq, decide_eq_false_iff_not, List.contains_iff_mem, or_assoc, Decidable.imp_iff_not_or]

theorem evictable_mono (a : A) (r s : List Nat) (h : ∀ x ∈ r, x ∈ s) (x : Nat) (hx : evictable a r x = true) :
    evictable a s x = true :=
  evictable_iff.2 <| (evictable_iff.1 hx).imp (fun ⟨e, he, hs, hd⟩ => ⟨e, he, hs, h _ hd⟩)
    fun hall e he hs => (hall e he hs).imp_left (h _)

/-- `r` is closed: nothing more is evictable -/
def Stable (a : A) (r : List Nat) : Prop := ∀ x ∈ a.nodes.map (·.1), evictable a r x = true → x ∈ r

theorem stable_iff_round (a : A) (r : List Nat) : Stable a r ↔ evictRound a r = r := by
  rw [evictRound_eq, List.append_right_eq_self, List.filter_eq_nil_iff]
  refine forall_congr' fun x => imp_congr_right fun _ => ?_
  by_cases hx : x ∈ r <;> simp [hx]

theorem round_eq_of_length_eq (a : A) (r : List Nat) (h : (evictRound a r).length = r.length) : evictRound a r = r := by
  rw [evictRound_eq, List.length_append] at h
  rw [evictRound_eq, List.append_right_eq_self]
  exact List.eq_nil_of_length_eq_zero (by omega)

/-- the loop stops early exactly when a further round would change nothing -/
theorem go_eq_iter (a : A) (fuel : Nat) (r : List Nat) : evictSet.go a fuel r = iter (evictRound a) fuel r := by
  fun_induction evictSet.go a fuel r with
  | case1 r => rfl
  | case2 r fuel r' h => exact (iter_fixed (round_eq_of_length_eq a r h) _).symm
  | case3 r fuel r' h ih => exact ih

theorem evictSet_eq_iter (a : A) (n : Nat) : evictSet a n = iter (evictRound a) (a.nodes.length + 1) [n] :=
  go_eq_iter a _ _

/-- a round that brings in no further node has added nothing at all -/
theorem stable_of_no_new_node {a : A} {r : List Nat} (h : ∀ x ∈ a.nodes.map (·.1), x ∈ evictRound a r → x ∈ r) :
    Stable a r := fun x hx he => Decidable.byContradiction fun hn =>
  hn (h x hx ((mem_evictRound a r x).2 (.inr ⟨hx, hn, he⟩)))

/-- **closed**: nothing outside the eviction set is evictable -/
theorem evictSet_stable (a : A) (n : Nat) : Stable a (evictSet a n) := by
  have keep : ∀ r, Stable a r → Stable a (evictRound a r) := fun r h => ((stable_iff_round a r).1 h).symm ▸ h
  rw [evictSet_eq_iter]
  exact iter_fuel_within (a.nodes.map (·.1)) (subset_evictRound a) (fun r h => keep r (stable_of_no_new_node h)) keep
    _ _ (by rw [List.length_map]; exact Nat.lt_succ_self _)

theorem mem_evictSet_self (a : A) (n : Nat) : n ∈ evictSet a n :=
  evictSet_eq_iter a n ▸ iter_inv (P := (n ∈ ·)) (fun r => subset_evictRound a r n) _ (List.mem_singleton.2 rfl)

/-- **least**: every closed set that contains the removed node contains the eviction set -/
theorem evictSet_least (a : A) (n : Nat) (s : List Nat) (hs : Stable a s) (hn : n ∈ s) : ∀ x ∈ evictSet a n, x ∈ s := by
  refine evictSet_eq_iter a n ▸ iter_inv (P := fun r => ∀ x ∈ r, x ∈ s) (fun r hr y hy => ?_) _ (by simpa using hn)
  rcases (mem_evictRound a r y).1 hy with h1 | ⟨hn, _, he⟩
  · exact hr y h1
  · exact hs y hn (evictable_mono a r s hr y he)

/-- **only what the rule demands**: every member other than the removed node is a node all of whose
    dependencies lead into the set (or nowhere), at least one of them into it -/
theorem evictSet_members (a : A) (n : Nat) :
    ∀ x ∈ evictSet a n, x = n ∨ (x ∈ a.nodes.map (·.1) ∧ evictable a (evictSet a n) x = true) := by
  refine evictSet_eq_iter a n ▸ iter_inv
    (P := fun r => ∀ x ∈ r, x = n ∨ (x ∈ a.nodes.map (·.1) ∧ evictable a r x = true)) (fun r hr y hy => ?_) _
    (fun x hx => .inl (List.mem_singleton.1 hx))
  rcases (mem_evictRound a r y).1 hy with h1 | ⟨hn, _, he⟩
  · exact (hr y h1).imp_right fun h => ⟨h.1, evictable_mono a r _ (subset_evictRound a r) y h.2⟩
  · exact .inr ⟨hn, evictable_mono a r _ (subset_evictRound a r) y he⟩

end Gleece.Graph
