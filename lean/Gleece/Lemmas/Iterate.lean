/-
  Induction principles for the two loop shapes of the models.
  A map iterated for a fixed number of rounds (`iter`): a round that does not lower the measure has reached the goal, so
  any fuel above the initial measure is enough (`iter_fuel`); for a growing set inside a finite universe the measure is
  the number of entries still outside (`iter_fuel_within`: the type closure of C07 over the declared names, the eviction
  set of C17 over the nodes).
  A fold over a list, with an invariant indexed by the input still to come (`foldl_induct`, `foldl_bind_induct`: the
  edge loops of the graph, C17).
  The facts about lists in between are shared by several properties.
-/
namespace Gleece

/-- `k` rounds of `f` (the recursion of `Types.closure` and, once a round changes nothing, of `Graph.evictSet.go`) -/
def iter {β} (f : β → β) : Nat → β → β
  | 0, s => s
  | k + 1, s => iter f k (f s)

theorem iter_inv {β} {f : β → β} {P : β → Prop} (h : ∀ s, P s → P (f s)) : ∀ (k : Nat) {s : β}, P s → P (iter f k s)
  | 0, _, hs => hs
  | k + 1, _, hs => iter_inv h k (h _ hs)

theorem iter_fixed {β} {f : β → β} {s : β} (h : f s = s) (k : Nat) : iter f k s = s :=
  iter_inv (P := (· = s)) (fun _ e => e ▸ h) k rfl

/-- every round lowers the measure `μ` or establishes `Q`, and `Q` once established is kept:
    then `Q` holds after any number of rounds above the initial measure -/
theorem iter_fuel {β} {f : β → β} {μ : β → Nat} {Q : β → Prop}
    (step : ∀ s, μ (f s) < μ s ∨ Q (f s)) (keep : ∀ s, Q s → Q (f s)) :
    ∀ (k : Nat) (s : β), μ s < k → Q (iter f k s)
  | 0, _, h => absurd h (Nat.not_lt_zero _)
  | k + 1, s, h => (step s).elim (fun hlt => iter_fuel step keep k (f s) (by omega)) (iter_inv keep k)

/-- counting inside a finite universe `l`: if `q` selects every entry that `p` selects, it selects strictly
    more entries or exactly the same ones -/
theorem filter_length_lt_or_eq {α} {p q : α → Bool} (l : List α) (h : ∀ a ∈ l.filter p, a ∈ l.filter q) :
    (l.filter p).length < (l.filter q).length ∨ l.filter p = l.filter q := by
  have hs : (l.filter p).Sublist (l.filter q) := by
    have : l.filter p = (l.filter q).filter p := by
      rw [List.filter_filter]
      refine List.filter_congr fun a ha => ?_
      cases hp : p a
      · rfl
      · exact (List.mem_filter.1 (h a (List.mem_filter.2 ⟨ha, hp⟩))).2.symm
    exact this ▸ List.filter_sublist
  exact (Nat.lt_or_eq_of_le hs.length_le).imp_right hs.eq_of_length

/-- `iter_fuel` for a set kept as a list that only grows, counted against a finite universe `u`: a round that brings
    in no further entry of `u` establishes `Q`, so any fuel above `u.length` is enough -/
theorem iter_fuel_within {α} [DecidableEq α] {f : List α → List α} {Q : List α → Prop} (u : List α)
    (grow : ∀ s, ∀ x ∈ s, x ∈ f s) (stall : ∀ s, (∀ x ∈ u, x ∈ f s → x ∈ s) → Q (f s)) (keep : ∀ s, Q s → Q (f s))
    (k : Nat) (s : List α) (hk : u.length < k) : Q (iter f k s) := by
  refine iter_fuel (μ := fun s => (u.filter (· ∉ s)).length) (fun s => ?_) keep k s
    (Nat.lt_of_le_of_lt (List.length_filter_le _ _) hk)
  refine (filter_length_lt_or_eq u fun x hx => ?_).imp_right fun heq =>
    stall s fun x hx hin => Decidable.byContradiction fun hn => ?_
  · simp only [List.mem_filter, decide_eq_true_eq] at hx ⊢
    exact ⟨hx.1, fun h => hx.2 (grow s x h)⟩
  · have : x ∈ u.filter (· ∉ f s) := heq ▸ List.mem_filter.2 ⟨hx, decide_eq_true hn⟩
    exact of_decide_eq_true (List.mem_filter.1 this).2 hin

theorem takeWhile_dropWhile_append {α : Type _} {p : α → Bool} {a b : List α} (ha : a.all p = true)
    (hb : ∀ c, b.head? = some c → p c = false) :
    (a ++ b).takeWhile p = a ∧ (a ++ b).dropWhile p = b := by
  have ha' := List.all_eq_true.1 ha
  rw [List.takeWhile_append_of_pos ha', List.dropWhile_append_of_pos ha']
  cases b with
  | nil => simp
  | cons c t => simp [hb c rfl]

theorem inj_of_nodup_map {α β : Type _} {l : List α} {f : α → β} (h : (l.map f).Nodup) {x y : α} (hx : x ∈ l) (hy : y ∈ l)
    (e : f x = f y) : x = y :=
  have hp := List.pairwise_map.1 h
  List.Pairwise.forall_of_forall_of_flip (R := fun x y => f x = f y → x = y) (fun _ _ _ => rfl)
    (hp.imp fun hne e => absurd e hne) (hp.imp fun hne e => absurd e.symm hne) hx hy e

theorem foldl_induct {α β} {f : β → α → β} (P : List α → β → Prop) (step : ∀ a l b, P (a :: l) b → P l (f b a)) :
    ∀ l b, P l b → P [] (l.foldl f b)
  | [], _, h => h
  | a :: l, b, h => foldl_induct P step l (f b a) (step a l b h)

theorem foldl_bind_none {α β} (f : β → α → Option β) : ∀ l : List α, l.foldl (fun ob a => ob.bind fun b => f b a) none = none
  | [] => rfl
  | _ :: l => foldl_bind_none f l

/-- a fold threading an `Option` state: if it succeeds then every step did -/
theorem foldl_bind_induct {α β} {f : β → α → Option β} (P : List α → β → Prop)
    (step : ∀ a l b b', P (a :: l) b → f b a = some b' → P l b') :
    ∀ l b b', P l b → l.foldl (fun ob a => ob.bind fun b => f b a) (some b) = some b' → P [] b'
  | [], _, _, h, e => Option.some.inj e ▸ h
  | a :: l, b, b', h, e => by
    rw [List.foldl_cons, Option.bind_some] at e
    cases hf : f b a with
    | none => rw [hf, foldl_bind_none] at e; cases e
    | some b₁ => rw [hf] at e; exact foldl_bind_induct P step l b₁ b' (step a l b b₁ h hf) e

end Gleece
