/- `RemoveDuplicateSlash` does not change the `{names}` of a template whose names contain no slash -/
import Gleece.Model.Doc
namespace Gleece.Doc
open Gleece.IR

/-- a `{name}` without `/` -/
def slashFree (n : String) : Prop := '/' ∉ n.toList

/-- the state of `templateParamsAux` (outside a group, or the buffer of the open group) after one character … -/
def tpaNext : Option (List Char) → Char → Option (List Char)
  | none, c => if c = '{' then some [] else none
  | some b, c => if c = '}' then none else if c = '{' then some [] else some (b ++ [c])

/-- … and the name it emits on that character, if it closes a group -/
def tpaEmit : Option (List Char) → Char → List String
  | none, _ => []
  | some b, c => if c = '}' then [String.ofList b] else []

theorem tpa_cons (st : Option (List Char)) (c : Char) (rest : List Char) :
    templateParamsAux st (c :: rest) = tpaEmit st c ++ templateParamsAux (tpaNext st c) rest := by
  cases st with
  | none => by_cases h : c = '{' <;> simp [templateParamsAux, tpaNext, tpaEmit, h]
  | some b =>
    by_cases h1 : c = '}'
    · simp [templateParamsAux, tpaNext, tpaEmit, h1]
    · by_cases h2 : c = '{' <;> simp [templateParamsAux, tpaNext, tpaEmit, h1, h2]

/-- a group whose buffer already holds a slash cannot complete without producing a name with a slash: if all names are
    slash-free the group is abandoned, and what the buffer held does not matter -/
theorem tpa_buffer_irrelevant (t : List Char) : ∀ (b b' : List Char), '/' ∈ b →
    (∀ n ∈ templateParamsAux (some b) t, slashFree n) →
    templateParamsAux (some b) t = templateParamsAux (some b') t := by
  induction t with
  | nil => intro b b' _ _; simp [templateParamsAux]
  | cons c t ih =>
    intro b b' hb hall
    by_cases h1 : c = '}'
    · subst h1
      exfalso
      have : String.ofList b ∈ templateParamsAux (some b) ('}' :: t) := by simp [templateParamsAux]
      exact hall _ this (by simpa using hb)
    · by_cases h2 : c = '{'
      · subst h2
        simp [templateParamsAux]
      · have hstep : ∀ x, templateParamsAux (some x) (c :: t) = templateParamsAux (some (x ++ [c])) t := by
          intro x; simp [templateParamsAux, h1, h2]
        rw [hstep b, hstep b']
        rw [hstep b] at hall
        exact ih (b ++ [c]) (b' ++ [c]) (by simp [hb]) hall

theorem tpa_squeeze_eq (s : List Char) : ∀ (st : Option (List Char)),
    (∀ x ∈ templateParamsAux st s, slashFree x) → templateParamsAux st (squeeze s) = templateParamsAux st s := by
  induction s using squeeze.induct with
  | case1 => intros; rfl
  | case2 c => intros; rfl
  | case3 c d t hcd ih =>
    obtain ⟨rfl, rfl⟩ := hcd
    intro st hall
    rw [squeeze, if_pos ⟨rfl, rfl⟩]
    cases st with
    | none => exact ih none hall
    | some b =>
      -- the buffer holds a slash after the first of the two: what else it holds does not matter
      have e1 : templateParamsAux (some b) ('/' :: '/' :: t) = templateParamsAux (some (b ++ ['/'] ++ ['/'])) t := by
        simp [templateParamsAux]
      have e2 : templateParamsAux (some b) ('/' :: t) = templateParamsAux (some (b ++ ['/'])) t := by
        simp [templateParamsAux]
      rw [e1] at hall
      have hirr := tpa_buffer_irrelevant t (b ++ ['/'] ++ ['/']) (b ++ ['/']) (by simp) hall
      rw [e1, hirr, ← e2]
      exact ih (some b) (by rw [e2, ← hirr]; exact hall)
  | case4 c d t hcd ih =>
    intro st hall
    rw [squeeze, if_neg hcd, tpa_cons st c (squeeze (d :: t)), tpa_cons st c (d :: t)]
    rw [tpa_cons st c (d :: t)] at hall
    exact congrArg _ (ih _ fun x hx => hall x (List.mem_append_right _ hx))

/-- `tpa_squeeze_eq` under a bound `n` on the length, which it does not need -/
theorem tpa_squeeze : ∀ (n : Nat) (s : List Char), s.length ≤ n → ∀ (st : Option (List Char)),
    (∀ x ∈ templateParamsAux st s, slashFree x) → templateParamsAux st (squeeze s) = templateParamsAux st s :=
  fun _ s _ => tpa_squeeze_eq s

/-- **`RemoveDuplicateSlash` keeps the template variables**: the `{names}` of the normalised path are those of the path
    as written, provided no name contains a slash -/
theorem templateParams_normPath (s : String) (h : ∀ x ∈ templateParams s, slashFree x) :
    templateParams (normPath s) = templateParams s := by
  unfold templateParams normPath at *
  rw [String.toList_ofList]
  exact tpa_squeeze_eq _ none h

end Gleece.Doc
