/-
  C15: the invariant of the `FindConflicts` loop and its preservation by one iteration.
-/
import Gleece.Lemmas.Paths
namespace Gleece.Paths
open Gleece.Text

/-- loop invariant after the entries `pre` have been processed -/
structure Inv (pre : List Entry) (s : State) : Prop where
  nodup : (pre.map (·.id)).Nodup
  /-- only processed entries are registered -/
  regSub : ∀ r ∈ s.reg, r ∈ pre
  /-- every processed entry has a registrant at its trie node for its verb -/
  regCover : ∀ e ∈ pre, ∃ r ∈ s.reg, r.verb = e.verb ∧ r.tp = e.tp
  /-- one endpoint per (trie node, verb) -/
  regUniq : ∀ r ∈ s.reg, ∀ r' ∈ s.reg, r.verb = r'.verb → r.tp = r'.tp → r = r'
  sound : ∀ c ∈ s.out, c.a ∈ pre ∧ c.b ∈ pre ∧ c.a.id ≠ c.b.id ∧ c.a.verb = c.b.verb ∧
            patternsConflict c.a.segs c.b.segs = true
  complete : ∀ e ∈ pre, ∀ e' ∈ pre, overlaps e e' = true → namedId s.out e.id

theorem inv_init : Inv [] {} := by
  constructor <;> simp

theorem overlaps_iff (a b : Entry) : overlaps a b = true ↔
    a.id ≠ b.id ∧ a.verb = b.verb ∧ patternsConflict a.segs b.segs = true := by
  simp [overlaps, and_assoc]

theorem overlaps_comm (a b : Entry) : overlaps a b = overlaps b a := by
  simp only [overlaps, patternsConflict_comm a.segs, ne_comm (a := a.id), eq_comm (a := a.verb)]

theorem step_eq (s : State) (e : Entry) : step s e =
    ⟨if (existing s.reg e).isSome then s.reg else s.reg ++ [e], addAll s.out e (calls s.reg e)⟩ := by
  unfold step calls addAll
  cases existing s.reg e <;> simp [List.foldl_append]

theorem step_out (s : State) (e : Entry) : (step s e).out = addAll s.out e (calls s.reg e) := by rw [step_eq]

theorem mem_step_reg {s : State} {e r : Entry} :
    r ∈ (step s e).reg ↔ r ∈ s.reg ∨ existing s.reg e = none ∧ r = e := by
  rw [step_eq]
  cases existing s.reg e <;> simp

theorem subset_step_out (s : State) (e : Entry) : ∀ c ∈ s.out, c ∈ (step s e).out :=
  step_out s e ▸ subset_addAll _ _ _

/-- one iteration names the new entry and every processed entry `y` that overlaps it: the new entry also overlaps
    the registrant `r` of `y`'s node and is reported against it; `y` itself, if it is not `r`, was named when it
    was found to duplicate `r` -/
theorem step_names {pre : List Entry} {s : State} (inv : Inv pre s) (e : Entry) {y : Entry} (hy : y ∈ pre)
    (hov : overlaps e y = true) : namedId (step s e).out e.id ∧ namedId (step s e).out y.id := by
  obtain ⟨_, hverb, hpc⟩ := (overlaps_iff e y).1 hov
  obtain ⟨r, hr, hrv, hrt⟩ := inv.regCover y hy
  obtain ⟨_, h⟩ := calls_complete inv.regUniq hr (hrv.trans hverb.symm) (patternsConflict_congr _ hrt ▸ hpc)
  have hn := step_out s e ▸ addAll_names s.out e _ _ h
  refine ⟨hn.1, ?_⟩
  by_cases hyr : y = r
  · exact hyr ▸ hn.2
  · have hrpre := inv.regSub r hr
    exact namedId_mono (subset_step_out s e) (inv.complete y hy r hrpre ((overlaps_iff y r).2
      ⟨fun h => hyr (inj_of_nodup_map inv.nodup hy hrpre h), hrv.symm, patternsConflict_of_tpath_eq _ _ hrt.symm⟩))

theorem inv_step {pre : List Entry} {s : State} (inv : Inv pre s) (e : Entry)
    (hid : e.id ∉ pre.map (·.id)) : Inv (pre ++ [e]) (step s e) where
  nodup := ((List.perm_append_singleton e pre).map _).nodup_iff.2 (List.nodup_cons.2 ⟨hid, inv.nodup⟩)
  regSub r hr := by
    rcases mem_step_reg.1 hr with h | ⟨_, rfl⟩
    · exact List.mem_append_left _ (inv.regSub r h)
    · exact List.mem_concat_self
  regCover x hx := by
    rcases List.mem_append.1 hx with hx | hx
    · obtain ⟨r, hr, h⟩ := inv.regCover x hx
      exact ⟨r, mem_step_reg.2 (.inl hr), h⟩
    · cases List.mem_singleton.1 hx
      cases hex : existing s.reg e with
      | some r =>
        obtain ⟨hr, hvt⟩ := existing_some hex
        exact ⟨r, mem_step_reg.2 (.inl hr), hvt⟩
      | none => exact ⟨e, mem_step_reg.2 (.inr ⟨hex, rfl⟩), rfl, rfl⟩
  regUniq r hr r' hr' hv ht := by
    -- each of `r`, `r'` was registered before (`h`, `h'`) or is the new entry, whose node was free (`hex`, `hex'`)
    rcases mem_step_reg.1 hr with h | ⟨hex, rfl⟩ <;> rcases mem_step_reg.1 hr' with h' | ⟨hex', rfl⟩
    · exact inv.regUniq r h r' h' hv ht
    · exact absurd ⟨hv, ht⟩ (existing_eq_none.1 hex' r h)
    · exact absurd ⟨hv.symm, ht.symm⟩ (existing_eq_none.1 hex r' h')
    · rfl
  sound c hc := by
    rcases mem_addAll (step_out s e ▸ hc) with h | ⟨p, hp, rfl⟩
    · obtain ⟨h1, h2, h3⟩ := inv.sound c h
      exact ⟨List.mem_append_left _ h1, List.mem_append_left _ h2, h3⟩
    · obtain ⟨hr, hv, hpc⟩ := calls_sound (r := p.1) (reason := p.2) hp
      have hrpre := inv.regSub _ hr
      have hrid : p.1.id ≠ e.id := fun h => hid (List.mem_map.2 ⟨_, hrpre, h⟩)
      rcases mkConflict_cases e p.1 p.2 with h | h <;> rw [h]
      · exact ⟨List.mem_concat_self, List.mem_append_left _ hrpre, hrid.symm, hv.symm, hpc⟩
      · exact ⟨List.mem_append_left _ hrpre, List.mem_concat_self, hrid, hv, patternsConflict_comm _ _ ▸ hpc⟩
  complete x hx y hy hov := by
    -- each of `x`, `y` is a processed entry or the new one
    rcases List.mem_append.1 hx with hx | hx <;> rcases List.mem_append.1 hy with hy | hy
    · exact namedId_mono (subset_step_out s e) (inv.complete x hx y hy hov)
    · cases List.mem_singleton.1 hy
      exact (step_names inv e hx (overlaps_comm x e ▸ hov)).2
    · cases List.mem_singleton.1 hx
      exact (step_names inv e hy hov).1
    · cases List.mem_singleton.1 hx
      cases List.mem_singleton.1 hy
      obtain ⟨hne, -⟩ := (overlaps_iff _ _).1 hov
      exact absurd rfl hne

theorem inv_foldl (l pre : List Entry) (s : State) (inv : Inv pre s)
    (hnd : ((pre ++ l).map (·.id)).Nodup) : Inv (pre ++ l) (l.foldl step s) := by
  induction l generalizing pre s with
  | nil => simpa using inv
  | cons e l ih =>
    rw [List.append_cons] at hnd ⊢
    refine ih _ _ (inv_step inv e fun h => ?_) hnd
    rw [List.map_append, List.map_append, List.nodup_append, List.nodup_append] at hnd
    obtain ⟨⟨-, -, hdisj⟩, -⟩ := hnd
    exact hdisj _ h _ (List.mem_singleton.2 rfl) rfl

end Gleece.Paths
