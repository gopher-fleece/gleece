/- Lemmas of the handler model (`Model/Router.lean`): what the steps of a parameter are, and `exec` step by step. -/
import Gleece.Model.Router
namespace Gleece.Router
open Gleece.IR

def Step.isParam : Step → Bool
  | .decl _ _ | .bind _ _ | .conv _ _ | .validate _ _ | .body _ _ => true
  | _ => false

theorem paramSteps_isParam (p : Param) : (paramSteps p).all Step.isParam = true := by
  fun_cases paramSteps p
  · rfl
  · rfl
  · rw [List.all_append, List.all_append, Bool.and_eq_true, Bool.and_eq_true]
    refine ⟨⟨rfl, ?_⟩, ?_⟩
    · split
      · split <;> rfl
      · rfl
    · split <;> rfl

theorem isParam_of_mem_paramSteps {ps : List Param} {s : Step} (h : s ∈ ps.flatMap paramSteps) : s.isParam = true := by
  obtain ⟨p, _, hs⟩ := List.mem_flatMap.1 h
  exact List.all_eq_true.1 (paramSteps_isParam p) s hs

theorem handlerOf_eq (c : Controller) (r : Route) :
    handlerOf c r = .auth (enforcedSecurity r) :: .guard :: .newController (c.name ++ "." ++ c.name) :: .init ::
      (r.params.flatMap paramSteps ++ [.call r.opId (callArgs r) r.hasReturnValue, .reply]) := rfl

theorem exec_go_no_auth (cb : Callback) (authErr : Option String) (rest : List Step)
    (h : rest.all Step.notGate = true) :
    exec.go cb authErr rest = rest.map Event.controllerStep := by
  fun_induction exec.go cb authErr rest with
  | case1 => rfl
  | case2 | case3 | case4 => cases h
  | case5 a s ss _ _ ih =>
    rw [List.all_cons, Bool.and_eq_true] at h
    rw [ih h.2]; rfl

end Gleece.Router
