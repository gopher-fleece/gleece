/-
  The parameter pass `validateParams.go`, characterised once: the loop reports nothing iff no binding is of a foreign
  kind, every declared type suits its location, and the bound locations are pairwise compatible (with each other and
  with the accumulator).  Soundness (`body_form_sound`, C10.lean) and completeness (`validateParams_complete`, C10Exact.lean) are read off.
-/
import Gleece.Lemmas.Validate
namespace Gleece.Validate
open Gleece.IR

/-- the declared type suits the location (the property's "non-body parameters are primitives, enums or primitive
    aliases (slices only in query)"; a body is anything but a bare builtin) -/
def typeOk (env : TypeEnv) (p : MParam) (loc : PassedIn) : Bool :=
  if loc = .body then !(isBuiltinType p.type && !isIterable p.type)
  else !(isIterable p.type && loc ≠ .query) && isPrimitiveLike env p.type

/-- the locations of the bound, non-context parameters, in signature order -/
def locsOf (m : Method) (ps : List MParam) : List PassedIn :=
  ps.filterMap fun p => if isContextType p.type then none else
    match passedInOf m.annots p.name with
    | some (.ok loc) => some loc
    | _ => none

/-- at most one body, never a body together with form fields -/
def comboOk (locs : List PassedIn) : Bool :=
  decide ((locs.filter (· = .body)).length ≤ 1) && !(locs.contains .body && locs.contains .form)

/-- `b` may follow `a`: a body follows neither a body nor a form field, a form field follows no body -/
def compat (a b : PassedIn) : Prop := (b = .body → a ≠ .body ∧ a ≠ .form) ∧ (b = .form → a ≠ .body)

/-- the type diagnostic of one bound parameter (the loop's `d1`; an `abbrev`, so that `typeDiag_eq_nil` rewrites the loop's
    own `let` value) -/
abbrev typeDiag (env : TypeEnv) (p : MParam) (loc : PassedIn) : List Diag :=
  if loc = .body then (if isBuiltinType p.type && !isIterable p.type then [err "receiver-invalid-body"] else [])
  else if isIterable p.type && loc ≠ .query then [err "receiver-parameter-not-primitive"]
  else if isPrimitiveLike env p.type then [] else [err "receiver-parameter-not-primitive"]

/-- the combination diagnostic of one bound parameter, given the locations before it (the loop's `d2`) -/
abbrev comboDiag (seen : List PassedIn) (loc : PassedIn) : List Diag :=
  if loc = .body && (seen.contains .body || seen.contains .form) then [err "receiver-return-values-invalid-signature"]
  else if loc = .form && seen.contains .body then [err "receiver-return-values-invalid-signature"]
  else []

theorem typeDiag_eq_nil (env : TypeEnv) (p : MParam) (loc : PassedIn) :
    typeDiag env p loc = [] ↔ typeOk env p loc = true := by
  unfold typeDiag typeOk
  split
  · cases isBuiltinType p.type && !isIterable p.type <;> simp
  · cases isIterable p.type && decide (loc ≠ .query) <;> cases isPrimitiveLike env p.type <;> simp

theorem forall_compat_iff (seen : List PassedIn) (loc : PassedIn) :
    (∀ a ∈ seen, compat a loc) ↔ (loc = .body → .body ∉ seen ∧ .form ∉ seen) ∧ (loc = .form → .body ∉ seen) :=
  ⟨fun h => ⟨fun hb => ⟨fun hm => ((h _ hm).1 hb).1 rfl, fun hm => ((h _ hm).1 hb).2 rfl⟩, fun hf hm => (h _ hm).2 hf rfl⟩,
    fun h _ ha => ⟨fun hb => ⟨fun e => (h.1 hb).1 (e ▸ ha), fun e => (h.1 hb).2 (e ▸ ha)⟩, fun hf e => h.2 hf (e ▸ ha)⟩⟩

theorem comboDiag_eq_nil (seen : List PassedIn) (loc : PassedIn) :
    comboDiag seen loc = [] ↔ ∀ a ∈ seen, compat a loc := by
  rw [forall_compat_iff]
  simp only [comboDiag, ite_cons_else_eq_nil, Bool.and_eq_true, Bool.or_eq_true, decide_eq_true_eq, List.contains_iff_mem,
    not_and, not_or, and_true]

theorem map_append_eq_some_nil {α : Type} (d : List α) (o : Option (List α)) :
    (o.map fun r => d ++ r) = some [] ↔ d = [] ∧ o = some [] := by
  cases o <;> simp

theorem validateParams_go_eq_nil (env : TypeEnv) (m : Method) (ps : List MParam) (seen : List PassedIn) :
    validateParams.go env m ps seen = some [] ↔
      (∀ p ∈ ps, isContextType p.type = false → ∀ e, passedInOf m.annots p.name ≠ some (.error e)) ∧
      (∀ p ∈ ps, isContextType p.type = false → ∀ loc, passedInOf m.annots p.name = some (.ok loc) → typeOk env p loc = true) ∧
      (locsOf m ps).Pairwise compat ∧ ∀ a ∈ seen, ∀ b ∈ locsOf m ps, compat a b := by
  induction ps generalizing seen with
  | nil => simp [validateParams.go, locsOf]
  | cons q rest ih =>
    rw [validateParams.go]
    simp only [locsOf, List.filterMap_cons, List.forall_mem_cons] at ih ⊢
    cases hq : isContextType q.type with
    | true => simp only [↓reduceIte, ih, ne_eq, Bool.true_eq_false, false_implies, true_and]
    | false =>
      cases hpi : passedInOf m.annots q.name with
      | none =>
        simp only [Bool.false_eq_true, ↓reduceIte, ih, ne_eq, reduceCtorEq, not_false_eq_true, implies_true, true_and,
          false_implies]
      | some res =>
        cases res with
        | error e => exact ⟨nofun, fun h => absurd rfl (h.1.1 rfl e)⟩
        | ok loc =>
          simp only [Bool.false_eq_true, if_false, map_append_eq_some_nil, List.append_eq_nil_iff,
            typeDiag_eq_nil, comboDiag_eq_nil, ih, List.pairwise_cons, List.mem_append, List.mem_singleton, or_imp,
            forall_and, forall_eq, List.forall_mem_cons,
            ne_eq, Option.some.injEq, Except.ok.injEq, reduceCtorEq, not_false_eq_true, implies_true, true_and, forall_eq',
            true_implies]
          -- both sides now say the same in another order: of `q`, its type (`tq`) and that its location suits those seen
          -- (`sq`) and those of the rest (`qr`); of the rest, no foreign kind, the types, pairwise, against `seen`
          exact ⟨fun ⟨⟨tq, sq⟩, ne, ty, pw, sr, qr⟩ => ⟨ne, ⟨tq, ty⟩, ⟨qr, pw⟩, sq, sr⟩,
            fun ⟨ne, ⟨tq, ty⟩, ⟨qr, pw⟩, sq, sr⟩ => ⟨⟨tq, sq⟩, ne, ty, pw, sr, qr⟩⟩

theorem comboOk_iff_pairwise (locs : List PassedIn) : comboOk locs = true ↔ locs.Pairwise compat := by
  induction locs with
  | nil => simp [comboOk]
  | cons a l ih =>
    rw [List.pairwise_cons, ← ih]
    unfold comboOk compat
    cases a <;> simp [forall_and, List.forall_mem_ne']
    · -- `body`: no body in the rest, so the count of bodies there is 0
      refine ⟨fun hb _ => ?_, fun hb _ => Or.inl hb⟩
      rw [List.filter_eq_nil_iff.2 fun x hx => by simpa using fun e : x = .body => hb (e ▸ hx)]
      exact Nat.zero_le 1
    · -- `form`
      exact ⟨fun ⟨h1, h2⟩ => ⟨h2, h1, Or.inl h2⟩, fun ⟨h2, h1, _⟩ => ⟨h1, h2⟩⟩

theorem mem_locsOf {m : Method} {ps : List MParam} {p : MParam} {loc : PassedIn} (hp : p ∈ ps)
    (hctx : isContextType p.type = false) (hloc : passedInOf m.annots p.name = some (.ok loc)) : loc ∈ locsOf m ps :=
  List.mem_filterMap.2 ⟨p, hp, by rw [hctx, hloc]; rfl⟩

/-- **the parameter pass accepts exactly** the routes without a binding of a foreign kind whose parameters suit their
    locations, with at most one body and no body next to form fields -/
theorem validateParams_eq_nil_iff (env : TypeEnv) (m : Method) :
    validateParams env m = some [] ↔
      (∀ p ∈ m.params, isContextType p.type = false → ∀ e, passedInOf m.annots p.name ≠ some (.error e)) ∧
      (∀ p ∈ m.params, isContextType p.type = false → ∀ loc, passedInOf m.annots p.name = some (.ok loc) → typeOk env p loc = true) ∧
      comboOk (locsOf m m.params) = true := by
  rw [comboOk_iff_pairwise, validateParams, validateParams_go_eq_nil]
  simp only [List.not_mem_nil, false_imp_iff, implies_true, and_true]

end Gleece.Validate
