/-
  C17: the index-consistency invariant of the symbol graph and its preservation by the primitive
  operations `addEdge`, `removeEdge`, `rawAddNode`.
  `deps` and `revDeps` are two adjacency indices of one kind (`has`); what an operation does to an index is
  said once (`has_insertSet`, `has_filter`), what it does to the edge set once per operation, and the two
  index clauses of the invariant follow from the same two facts.
-/
import Gleece.Model.Graph
namespace Gleece.Graph

/-- the adjacency index `ix` (`deps` or `revDeps`) holds, under `a`, a key with base id `b` -/
def has (ix : List (Nat × Key)) (a b : Nat) : Prop := ∃ d ∈ ix, d.1 = a ∧ d.2.base = b

/-- `deps[fb]` holds a key with base id `tb` -/
def depHas (g : G) (fb tb : Nat) : Prop := ∃ d ∈ g.deps, d.1 = fb ∧ d.2.base = tb
/-- `revDeps[tb]` holds a key with base id `fb` -/
def revHas (g : G) (tb fb : Nat) : Prop := ∃ d ∈ g.revDeps, d.1 = tb ∧ d.2.base = fb
/-- an edge of some kind leads from `fb` to `tb` -/
def edgeBetween (g : G) (fb tb : Nat) : Prop := ∃ e ∈ g.edges, e.src.base = fb ∧ e.dst.base = tb

theorem depHas_eq (g : G) : depHas g = has g.deps := rfl
theorem revHas_eq (g : G) : revHas g = has g.revDeps := rfl

/-- the two descriptors would share a key of the Go edge map (`edges[fromBase][kind::toBase]`) -/
def sameSlot (e e' : Edge) : Prop := e.src.base = e'.src.base ∧ e.kind = e'.kind ∧ e.dst.base = e'.dst.base

/-- the three indices describe the same set of edges -/
structure Inv (g : G) : Prop where
  /-- one descriptor per (from base id, kind, to base id) -/
  uniq : g.edges.Pairwise fun e e' => ¬ sameSlot e e'
  /-- `deps` is exactly the base-level projection of `edges` -/
  dep : ∀ fb tb, depHas g fb tb ↔ edgeBetween g fb tb
  /-- `revDeps` is exactly the reversed base-level projection of `edges` -/
  rev : ∀ fb tb, revHas g tb fb ↔ edgeBetween g fb tb
  /-- ordinals are fresh … -/
  ordLt : ∀ e ∈ g.edges, e.ord < g.nextSeq
  /-- … and identify the edge -/
  ordInj : g.edges.Pairwise fun e e' => e.ord ≠ e'.ord

theorem inv_init : Inv {} := by
  constructor <;> simp [depHas, revHas, edgeBetween]

theorem mem_insertSet {α} [DecidableEq α] (l : List α) (a x : α) : x ∈ insertSet l a ↔ x ∈ l ∨ x = a := by
  fun_cases insertSet l a with
  | case1 h => exact ⟨Or.inl, fun hx => hx.elim id (· ▸ h)⟩
  | case2 h => exact List.mem_append.trans (or_congr_right List.mem_singleton)

theorem has_insertSet {ix : List (Nat × Key)} {a₀ : Nat} {k : Key} {a b : Nat} :
    has (insertSet ix (a₀, k)) a b ↔ has ix a b ∨ (a₀ = a ∧ k.base = b) := by
  simp only [has, mem_insertSet, or_and_right, exists_or, exists_eq_left]

theorem has_filter {ix : List (Nat × Key)} {p : Nat × Key → Bool} (P : Nat → Nat → Prop)
    (hp : ∀ d, p d = true ↔ P d.1 d.2.base) {a b : Nat} : has (ix.filter p) a b ↔ has ix a b ∧ P a b := by
  simp only [has, List.mem_filter, hp]
  constructor
  · rintro ⟨d, ⟨hd, hP⟩, rfl, rfl⟩; exact ⟨⟨d, hd, rfl, rfl⟩, hP⟩
  · rintro ⟨⟨d, hd, rfl, rfl⟩, hP⟩; exact ⟨d, ⟨hd, hP⟩, rfl, rfl⟩

theorem has_dropPair {ix : List (Nat × Key)} {a₀ b₀ a b : Nat} :
    has (ix.filter fun d => !(d.1 = a₀ && d.2.base = b₀)) a b ↔ has ix a b ∧ ¬ (a = a₀ ∧ b = b₀) :=
  has_filter (fun a b => ¬ (a = a₀ ∧ b = b₀)) fun d => by
    rw [Bool.not_eq_true', ← Bool.not_eq_true, Bool.and_eq_true, decide_eq_true_eq, decide_eq_true_eq]

theorem Inv.of_sublist {g g' : G} (inv : Inv g) (hs : g'.edges.Sublist g.edges) (hn : g'.nextSeq = g.nextSeq)
    (dep : ∀ a b, depHas g' a b ↔ edgeBetween g' a b) (rev : ∀ a b, revHas g' b a ↔ edgeBetween g' a b) :
    Inv g' :=
  ⟨inv.uniq.sublist hs, dep, rev, fun e he => hn ▸ inv.ordLt e (hs.subset he), inv.ordInj.sublist hs⟩

/-- `GetEdges`, `Parents` and `RemoveNode` all read the parents of `b` off `revDeps[b]`: these are exactly the
    sources of the edges into `b` -/
theorem Inv.mem_recordedParents {g : G} (inv : Inv g) {b p : Nat} :
    p ∈ (g.revDeps.filter (·.1 = b)).map (·.2.base) ↔ edgeBetween g p b := by
  rw [← inv.rev]
  simp only [List.mem_map, List.mem_filter, decide_eq_true_eq, revHas, and_assoc]

theorem inv_rawAddNode {g : G} (inv : Inv g) (n : Node) : Inv (rawAddNode g n) :=
  inv.of_sublist (List.Sublist.refl _) rfl inv.dep inv.rev

/-! ### addEdge -/

theorem edgeMatches_iff (fb : Nat) (kind : String) (tb : Nat) (e : Edge) :
    edgeMatches fb kind tb e = true ↔ e.src.base = fb ∧ e.kind = kind ∧ e.dst.base = tb := by
  simp [edgeMatches, and_assoc]

theorem addEdge_cases {g g' : G} {f t : Key} {kind : String} (h : addEdge g f t kind = g') :
    g'.nodes = g.nodes ∧ g'.deps = insertSet g.deps (f.base, t) ∧ g'.revDeps = insertSet g.revDeps (t.base, f) ∧
    (((∃ e ∈ g.edges, e.src.base = f.base ∧ e.kind = kind ∧ e.dst.base = t.base) ∧
        g'.edges = g.edges ∧ g'.nextSeq = g.nextSeq) ∨
     ((∀ e ∈ g.edges, ¬ (e.src.base = f.base ∧ e.kind = kind ∧ e.dst.base = t.base)) ∧
        g'.edges = g.edges ++ [⟨f, t, kind, g.nextSeq⟩] ∧ g'.nextSeq = g.nextSeq + 1)) := by
  subst h
  fun_cases addEdge g f t kind with
  | case1 g₁ h =>
    simp only [g₁, List.any_eq_true, edgeMatches_iff] at h
    exact ⟨rfl, rfl, rfl, .inl ⟨h, rfl, rfl⟩⟩
  | case2 g₁ h =>
    simp only [g₁, List.any_eq_true, edgeMatches_iff] at h
    exact ⟨rfl, rfl, rfl, .inr ⟨fun e he hm => h ⟨e, he, hm⟩, rfl, rfl⟩⟩

theorem inv_addEdge {g : G} (inv : Inv g) (f t : Key) (kind : String) : Inv (addEdge g f t kind) := by
  obtain ⟨-, hdeps, hrev, hcase⟩ := addEdge_cases (rfl : addEdge g f t kind = _)
  generalize addEdge g f t kind = g' at *
  -- either way the joined pairs are the old ones and `(f, t)`
  have joined : ∀ a b, edgeBetween g' a b ↔ edgeBetween g a b ∨ (f.base = a ∧ t.base = b) := by
    intro a b
    unfold edgeBetween
    rcases hcase with ⟨⟨e, he, h1, _, h3⟩, hedges, _⟩ | ⟨_, hedges, _⟩ <;> rw [hedges]
    · exact ⟨Or.inl, fun h => h.elim id fun ⟨ha, hb⟩ => ⟨e, he, h1.trans ha, h3.trans hb⟩⟩
    · simp only [List.mem_append, List.mem_singleton, or_and_right, exists_or, exists_eq_left]
  have dep : ∀ a b, depHas g' a b ↔ edgeBetween g' a b := fun a b => by
    rw [depHas_eq, hdeps, has_insertSet, joined, ← inv.dep, depHas_eq]
  have rev : ∀ a b, revHas g' b a ↔ edgeBetween g' a b := fun a b => by
    rw [revHas_eq, hrev, has_insertSet, joined, ← inv.rev, revHas_eq, and_comm (a := t.base = b)]
  rcases hcase with ⟨_, hedges, hseq⟩ | ⟨hfree, hedges, hseq⟩
  · exact inv.of_sublist (hedges ▸ List.Sublist.refl _) hseq dep rev
  · have fresh : ∀ {R : Edge → Edge → Prop}, g.edges.Pairwise R → (∀ e ∈ g.edges, R e ⟨f, t, kind, g.nextSeq⟩) →
        g'.edges.Pairwise R := fun h hn => hedges ▸ List.pairwise_append.2
      ⟨h, List.pairwise_singleton _ _, fun e he e' he' => List.eq_of_mem_singleton he' ▸ hn e he⟩
    refine ⟨fresh inv.uniq hfree, dep, rev, fun e he => ?_, fresh inv.ordInj fun e he => Nat.ne_of_lt (inv.ordLt e he)⟩
    rw [hseq]
    rcases List.mem_append.1 (hedges ▸ he) with he | he
    · exact Nat.lt_succ_of_lt (inv.ordLt e he)
    · exact List.eq_of_mem_singleton he ▸ Nat.lt_succ_self _

/-! ### removeEdge -/

/-- the edges between the pair that match `kind` go; index entries go with them only for that pair, and only when no
    edge between the two remains -/
theorem removeEdge_spec {g g' : G} {f t : Key} {kind : Option String} (h : removeEdge g f t kind = g') :
    g'.edges = g.edges.filter (fun e => !(e.src.base = f.base && e.dst.base = t.base && kindSelected kind e)) ∧
    g'.nodes = g.nodes ∧ g'.nextSeq = g.nextSeq ∧
    (∀ a b, has g'.deps a b ↔ has g.deps a b ∧ (¬ (a = f.base ∧ b = t.base) ∨ edgeBetween g' f.base t.base)) ∧
    (∀ a b, has g'.revDeps b a ↔ has g.revDeps b a ∧ (¬ (a = f.base ∧ b = t.base) ∨ edgeBetween g' f.base t.base)) := by
  subst h
  fun_cases removeEdge g f t kind with
  | case1 edges h =>
    simp only [edges, List.any_eq_true, Bool.and_eq_true, decide_eq_true_eq] at h
    exact ⟨rfl, rfl, rfl, fun a b => (and_iff_left (.inr h)).symm, fun a b => (and_iff_left (.inr h)).symm⟩
  | case2 edges h =>
    simp only [edges, List.any_eq_true, Bool.and_eq_true, decide_eq_true_eq] at h
    exact ⟨rfl, rfl, rfl, fun a b => has_dropPair.trans (and_congr_right' (or_iff_left h).symm),
      fun a b => has_dropPair.trans (and_congr_right' ((not_congr and_comm).trans (or_iff_left h).symm))⟩

theorem removeEdge_edges (g : G) (f t : Key) (kind : Option String) :
    (removeEdge g f t kind).edges =
      g.edges.filter (fun e => !(e.src.base = f.base && e.dst.base = t.base && kindSelected kind e)) :=
  (removeEdge_spec rfl).1

theorem removeEdge_nodes (g : G) (f t : Key) (kind : Option String) : (removeEdge g f t kind).nodes = g.nodes :=
  let ⟨_, hnodes, _⟩ := removeEdge_spec rfl; hnodes

theorem mem_removeEdge_edges {g : G} {f t : Key} {kind : Option String} {e : Edge} :
    e ∈ (removeEdge g f t kind).edges ↔
      e ∈ g.edges ∧ ¬ (e.src.base = f.base ∧ e.dst.base = t.base ∧ kindSelected kind e = true) := by
  simp only [removeEdge_edges, List.mem_filter, Bool.not_eq_true', ← Bool.not_eq_true, Bool.and_eq_true,
    decide_eq_true_eq, and_assoc]

theorem inv_removeEdge {g : G} (inv : Inv g) (f t : Key) (kind : Option String) : Inv (removeEdge g f t kind) := by
  obtain ⟨hedges, -, hseq, hdep, hrev⟩ := removeEdge_spec (rfl : removeEdge g f t kind = _)
  have hmem := fun e => mem_removeEdge_edges (g := g) (f := f) (t := t) (kind := kind) (e := e)
  generalize removeEdge g f t kind = g' at *
  have hsub : g'.edges.Sublist g.edges := hedges ▸ List.filter_sublist
  have old : ∀ {a b}, edgeBetween g' a b → edgeBetween g a b := fun ⟨e, he, h⟩ => ⟨e, hsub.subset he, h⟩
  -- the edge set changes as the indices do: other pairs are untouched, the pair itself stays joined iff an edge remains
  have change : ∀ a b, edgeBetween g' a b ↔
      edgeBetween g a b ∧ (¬ (a = f.base ∧ b = t.base) ∨ edgeBetween g' f.base t.base) := fun a b => by
    by_cases hp : a = f.base ∧ b = t.base
    · rw [hp.1, hp.2]; exact ⟨fun h => ⟨old h, .inr h⟩, fun h => h.2.resolve_left fun hn => hn ⟨rfl, rfl⟩⟩
    · exact ⟨fun h => ⟨old h, .inl hp⟩, fun ⟨⟨e, he, h⟩, _⟩ =>
        ⟨e, (hmem e).2 ⟨he, fun ⟨hs, hd, _⟩ => hp ⟨h.1 ▸ hs, h.2 ▸ hd⟩⟩, h⟩⟩
  exact inv.of_sublist hsub hseq
    (fun a b => by rw [depHas_eq, hdep, ← depHas_eq, inv.dep]; exact (change a b).symm)
    (fun a b => by rw [revHas_eq, hrev, ← revHas_eq, inv.rev]; exact (change a b).symm)

end Gleece.Graph
