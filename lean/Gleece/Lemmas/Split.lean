/- `strings.Split` lemmas used by the C06 required-rule theorem -/
import Gleece.Model.Text
namespace Gleece.Text

theorem splitOn_cons (sep c : Char) (t : Str) :
    splitOn sep (c :: t) = if c = sep then [] :: splitOn sep t
      else match splitOn sep t with
        | h :: r => (c :: h) :: r
        | [] => [[c]] := by
  rw [splitOn]; rfl

/-- like `strings.Split`, never an empty list -/
theorem splitOn_ne_nil (sep : Char) (s : Str) : splitOn sep s ≠ [] := by
  cases s with
  | nil => exact List.cons_ne_nil _ _
  | cons c t =>
    rw [splitOn_cons]
    split
    · exact List.cons_ne_nil _ _
    · split <;> exact List.cons_ne_nil _ _

/-- splitting `a ++ sep :: b` = splitting `a`, then splitting `b` -/
theorem splitOn_append_sep (sep : Char) (a b : Str) :
    splitOn sep (a ++ sep :: b) = splitOn sep a ++ splitOn sep b := by
  induction a with
  | nil => rw [List.nil_append, splitOn_cons, if_pos rfl]; rfl
  | cons c t ih =>
    rw [List.cons_append, splitOn_cons, splitOn_cons sep c t, ih]
    split
    · rfl
    · obtain ⟨h, r, e⟩ := List.exists_cons_of_ne_nil (splitOn_ne_nil sep t)
      rw [e]; rfl

theorem splitOn_no_sep (sep : Char) (s : Str) (h : ∀ c ∈ s, c ≠ sep) : splitOn sep s = [s] := by
  induction s with
  | nil => rfl
  | cons c t ih =>
    have hc : c ≠ sep := h c (by simp)
    rw [splitOn_cons, ih (fun x hx => h x (by simp [hx]))]
    simp [hc]

end Gleece.Text
