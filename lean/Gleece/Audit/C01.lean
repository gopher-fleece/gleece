import Gleece.Properties.C01
import Gleece.Properties.Reduce
#print axioms Gleece.IR.mem_visibleOps
#print axioms Gleece.IR.emitOps_sound
#print axioms Gleece.IR.emitOps_complete
#print axioms Gleece.IR.emitOps_exact
#print axioms Gleece.IR.c01_iff
#print axioms Gleece.IR.squeeze_no_dd
#print axioms Gleece.Assoc.get?_setAll
#print axioms Gleece.Assoc.setAll_nodup
#print axioms Gleece.Reduce.hidden_iff
