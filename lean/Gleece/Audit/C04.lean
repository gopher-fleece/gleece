import Gleece.Properties.Reduce
#print axioms Gleece.IR.effective_def
#print axioms Gleece.IR.effective_empty_iff
#print axioms Gleece.IR.doc_eq_enforced
#print axioms Gleece.IR.doc_eq_enforced_of
#print axioms Gleece.IR.unknown_scheme_no_spec
#print axioms Gleece.IR.schemes_declared
#print axioms Gleece.IR.enforce_airtight
#print axioms Gleece.Reduce.effective_security
#print axioms Gleece.Reduce.default_applies
#print axioms Gleece.Reduce.effective_empty_iff
#print axioms Gleece.Reduce.own_security_in_order
#print axioms Gleece.Reduce.reduce_is_effective
#print axioms Gleece.Reduce.source_doc_eq_enforced
