import Gleece.Properties.C03
import Gleece.Properties.Reduce
import Gleece.Properties.Serve
#print axioms Gleece.Router.gateFirst_handlerOf
#print axioms Gleece.Router.runList_none_iff
#print axioms Gleece.Router.authorize_none
#print axioms Gleece.Router.authorize_some
#print axioms Gleece.Router.exec_gateFirst
#print axioms Gleece.Router.controller_only_if_approved
#print axioms Gleece.Router.refused_no_controller
#print axioms Gleece.IR.effective_def
#print axioms Gleece.IR.effective_empty_iff
#print axioms Gleece.Reduce.effective_security
#print axioms Gleece.Reduce.default_applies
#print axioms Gleece.Reduce.effective_empty_iff
#print axioms Gleece.Serve.called_only_if_approved
#print axioms Gleece.Serve.all_denied_refused
#print axioms Gleece.Serve.approvesAll_deny
#print axioms Gleece.Reduce.reduce_is_effective
#print axioms Gleece.Serve.serve_refused_iff_exec_gate
