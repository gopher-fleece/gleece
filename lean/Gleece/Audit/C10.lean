import Gleece.Properties.C10
import Gleece.Properties.Link
import Gleece.Properties.C10Complete
import Gleece.Properties.C10Common
import Gleece.Properties.C10Exact
#print axioms Gleece.Validate.returns_sound
#print axioms Gleece.Validate.linkValidate_nil_parts
#print axioms Gleece.Validate.params_referenced
#print axioms Gleece.Validate.body_form_sound
#print axioms Gleece.Order.run_blocks_on_error_diagnostics
#print axioms Gleece.Order.commands_write_after_success
#print axioms Gleece.Validate.link_injective
#print axioms Gleece.Validate.link_bijection_partial
#print axioms Gleece.Validate.unaliased_outside_route_is_accepted
#print axioms Gleece.Link.binding_rows
#print axioms Gleece.Link.findFirst_of_mem
#print axioms Gleece.Link.path_annotation_reduced
#print axioms Gleece.Link.reduced_path_has_annotation
#print axioms Gleece.Link.reduceRoute_names
#print axioms Gleece.Link.reduced_path_required
#print axioms Gleece.Link.accepted_route_path_params_partial
#print axioms Gleece.Doc.templateParams_normPath
#print axioms Gleece.Doc.tpa_buffer_irrelevant
#print axioms Gleece.Link.accepted_route_document_closed_partial
#print axioms Gleece.Validate.goUrl_eq_nil_iff
#print axioms Gleece.Validate.goPath_fst_eq_nil_iff
#print axioms Gleece.Validate.goPath_snd_of_ok
#print axioms Gleece.Validate.linkValidate_eq_nil_iff
#print axioms Gleece.Validate.goUrl_of_nodup
#print axioms Gleece.Validate.goPath_of_wellformed
#print axioms Gleece.Validate.wellLinked_accepted
#print axioms Gleece.Validate.wellLinkedB_sound
#print axioms Gleece.Validate.wellLinkedB_accepted
#print axioms Gleece.Validate.validateParams_complete
#print axioms Gleece.Validate.validateReturns_complete
#print axioms Gleece.Validate.receiver_accepts
#print axioms Gleece.Validate.commonValidate_complete
#print axioms Gleece.Validate.annotsWellFormedB_sound
#print axioms Gleece.Validate.well_formed_route_accepted
#print axioms Gleece.Validate.exclusion_symmetric_lookup
#print axioms Gleece.Validate.commonValidate_go_sound
#print axioms Gleece.Validate.commonValidate_sound
#print axioms Gleece.Validate.commonValidate_accepts_iff
#print axioms Gleece.Validate.goPath_values_nodup
#print axioms Gleece.Validate.accepted_is_wellLinked_partial
#print axioms Gleece.Validate.link_accepts_iff_partial
#print axioms Gleece.Validate.linkValidate_all_err
#print axioms Gleece.Validate.linkValidate_nil_of_noerr
#print axioms Gleece.Validate.accepted_route_is_well_formed_partial
