/-
  C11 / C08 — the two validator-tag converters agree, rule list by rule list.

  `converters_agree`: for EVERY tag whose values both converters understand and which constrains each
  numeric side at most once (`Agreeable`, both parts shown necessary by witnesses below), the 3.0 schema
  and the 3.1 schema say the same thing (`view30 … = view31 …`): same format, bounds, lengths, pattern,
  item counts, uniqueness and enum members — for all parsers (`strconv`, YAML resolution are parameters).
  `enum30_typed` / `enum31_string_typed`: what the converters write into `enum` belongs to the
  schema's type (C08).
-/
import Gleece.Model.Conv
import Gleece.Lemmas.Iterate
namespace Gleece.Conv
open Gleece.Text

variable {ν : Type}

/-! ### the members of `enum=` / `oneof=` -/

theorem members30_append (P : Parsers ν) (t : Ty) (l₁ l₂ : List String) :
    members30 P t (l₁ ++ l₂) = members30 P t l₁ ++ members30 P t l₂ := by
  cases t <;> simp [members30]

theorem members30_plain (P : Parsers ν) (t : Ty) (vals : List String)
    (h : ∀ m ∈ vals, members30 P t [m] = [P.yaml m]) : members30 P t vals = vals.map P.yaml := by
  induction vals with
  | nil => cases t <;> rfl
  | cons m ms ih =>
    rw [← List.singleton_append, members30_append, h m (by simp), ih fun x hx => h x (by simp [hx])]
    rfl

/-- the view resolves the untagged members and leaves the tagged ones alone -/
theorem map_memberView (P : Parsers ν) (vals : List String) :
    (vals.map (Member.plain (ν := ν))).map (memberView P) = vals.map P.yaml ∧
    (vals.map (Member.str (ν := ν))).map (memberView P) = vals.map Member.str ∧
    (vals.filterMap fun v => (P.int v).map (Member.int (ν := ν))).map (memberView P) = (vals.filterMap fun v => (P.int v).map Member.int) ∧
    (vals.filterMap fun v => (P.num v).map Member.num).map (memberView P) = vals.filterMap fun v => (P.num v).map Member.num := by
  simp [List.map_filterMap, Function.comp_def, memberView]

/-- the members both converters write for one `enum=` / `oneof=` rule agree under the view -/
theorem enum_members_agree (P : Parsers ν) (t : Ty) (vals : List String)
    (h : t ≠ .string → ∀ m ∈ vals, members30 P t [m] = [P.yaml m]) :
    members30 P t vals = (enum31 t vals).map (memberView P) := by
  by_cases ht : t = .string
  · subst ht; simp only [enum31, if_true, members30, map_memberView]
  · simp only [enum31, ht, if_false, map_memberView]
    exact members30_plain P t vals (h ht)

theorem oneof_members_agree (P : Parsers ν) (t : Ty) (vals : List String)
    (h : t = .boolean ∨ t = .array ∨ t = .other → ∀ m ∈ vals, members30 P t [m] = [P.yaml m]) :
    members30 P t vals = (oneof31 P t vals).map (memberView P) := by
  cases t <;> simp only [oneof31, members30, map_memberView] <;> exact members30_plain P _ vals (h (by simp))

/-! ### the simulation -/

/-- the lower-bound members of both schemas are still unwritten -/
def lowerEmpty (a : S30 ν) (b : S31 ν) : Prop := a.min = none ∧ a.exclMin = false ∧ b.minimum = none ∧ b.exclMin = none
def upperEmpty (a : S30 ν) (b : S31 ν) : Prop := a.max = none ∧ a.exclMax = false ∧ b.maximum = none ∧ b.exclMax = none

/-- invariant of the run over a rule list: the schemas say the same so far, and a side that some rule of
    the REST still constrains has not been written yet -/
def Sim (P : Parsers ν) (t : Ty) (a : S30 ν) (b : S31 ν) (rest : List (Kind × String)) : Prop :=
  view30 a = view31 P b ∧
  (1 ≤ countP (fun r => lowerRule t r.1) rest → lowerEmpty a b) ∧
  (1 ≤ countP (fun r => upperRule t r.1) rest → upperEmpty a b)

theorem countP_cons {α} (p : α → Bool) (x : α) (l : List α) :
    countP p (x :: l) = (if p x then 1 else 0) + countP p l := by
  unfold countP; cases h : p x <;> simp [h]; omega

/-- the per-rule statement: one rule of kind `k` preserves the invariant -/
def StepOK (P : Parsers ν) (t : Ty) (k : Kind) : Prop :=
  ∀ (a : S30 ν) (b : S31 ν) (v : String) (rest : List (Kind × String)),
    Sim P t a b ((k, v) :: rest) → valueOK P t (k, v) →
    countP (fun r => lowerRule t r.1) ((k, v) :: rest) ≤ 1 → countP (fun r => upperRule t r.1) ((k, v) :: rest) ≤ 1 →
    Sim P t (apply30 P t a (k, v)) (apply31 P t b (k, v)) rest

section
variable {P : Parsers ν} {t : Ty} {a a' : S30 ν} {b b' : S31 ν} {r : Kind × String} {rest : List (Kind × String)}

/-! What a rule does to the invariant depends only on which numeric side it constrains.  The lemmas leave the
    schemas after the rule (`a'`, `b'`) variables: `step_sim` picks one per kind. -/

/-- a rule that constrains neither side -/
theorem Sim.other (h : Sim P t a b (r :: rest)) (hl : lowerRule t r.1 = false) (hu : upperRule t r.1 = false)
    (hv : view30 a = view31 P b → view30 a' = view31 P b')
    (hlow : lowerEmpty a b → lowerEmpty a' b') (hup : upperEmpty a b → upperEmpty a' b') : Sim P t a' b' rest := by
  simp only [Sim, countP_cons, hl, hu, Bool.false_eq_true, if_false, Nat.zero_add] at h
  exact ⟨hv h.1, fun c => hlow (h.2.1 c), fun c => hup (h.2.2 c)⟩

theorem Sim.noop (h : Sim P t a b (r :: rest)) (hl : lowerRule t r.1 = false) (hu : upperRule t r.1 = false) :
    Sim P t a b rest := h.other hl hu id id id

/-- outside its type guard `c` a rule does nothing and constrains no side.  `apply30` / `apply31` of a guarded kind
    unfold to the two `if`s of the conclusion, so `step_sim` applies this to its goal as it stands. -/
theorem Sim.guard {c : Prop} [Decidable c] (h : Sim P t a b (r :: rest))
    (hl : ¬c → lowerRule t r.1 = false) (hu : ¬c → upperRule t r.1 = false) (hc : c → Sim P t a' b' rest) :
    Sim P t (if c then a' else a) (if c then b' else b) rest := by
  by_cases h' : c
  · simp only [h', if_true]; exact hc h'
  · simp only [h', if_false]; exact h.noop (hl h') (hu h')

/-- THE rule of the lower side (`hc`): the side is unwritten before it, and no rule of the rest asks about it -/
theorem Sim.lower (h : Sim P t a b (r :: rest)) (hl : lowerRule t r.1 = true) (hu : upperRule t r.1 = false)
    (hc : countP (fun r => lowerRule t r.1) (r :: rest) ≤ 1)
    (hv : view30 a = view31 P b → lowerEmpty a b → view30 a' = view31 P b')
    (hup : upperEmpty a b → upperEmpty a' b') : Sim P t a' b' rest := by
  simp only [Sim, countP_cons, hl, hu, Bool.false_eq_true, if_false, if_true, Nat.zero_add] at h hc
  exact ⟨hv h.1 (h.2.1 (by omega)), fun c => by omega, fun c => hup (h.2.2 c)⟩

theorem Sim.upper (h : Sim P t a b (r :: rest)) (hl : lowerRule t r.1 = false) (hu : upperRule t r.1 = true)
    (hc : countP (fun r => upperRule t r.1) (r :: rest) ≤ 1)
    (hv : view30 a = view31 P b → upperEmpty a b → view30 a' = view31 P b')
    (hlow : lowerEmpty a b → lowerEmpty a' b') : Sim P t a' b' rest := by
  simp only [Sim, countP_cons, hl, hu, Bool.false_eq_true, if_false, if_true, Nat.zero_add] at h hc
  exact ⟨hv h.1 (h.2.2 (by omega)), fun c => hlow (h.2.1 c), fun c => by omega⟩

/-- both converters make the same change `f` to what the schema says -/
theorem view_congr (f : View ν → View ν) (h30 : view30 a' = f (view30 a)) (h31 : view31 P b' = f (view31 P b))
    (e : view30 a = view31 P b) : view30 a' = view31 P b' :=
  h30.trans (e ▸ h31.symm)

/-! the four ways a bound is written: 3.0 keeps a value and a flag, 3.1 two values, one of them still unwritten -/

theorem lower_excl (x : ν) (e : view30 a = view31 P b) (h : lowerEmpty a b) :
    view30 { a with min := some x, exclMin := true } = view31 P { b with exclMin := some x } :=
  view_congr (fun w => { w with minimum := none, exclMin := some x }) rfl (by simp only [view31, h.2.2.1]) e

theorem lower_incl (x : Option ν) (e : view30 a = view31 P b) (h : lowerEmpty a b) :
    view30 { a with min := x, exclMin := false } = view31 P { b with minimum := x } :=
  view_congr (fun w => { w with minimum := x, exclMin := none }) rfl (by simp only [view31, h.2.2.2]) e

theorem upper_excl (x : ν) (e : view30 a = view31 P b) (h : upperEmpty a b) :
    view30 { a with max := some x, exclMax := true } = view31 P { b with exclMax := some x } :=
  view_congr (fun w => { w with maximum := none, exclMax := some x }) rfl (by simp only [view31, h.2.2.1]) e

theorem upper_incl (x : Option ν) (e : view30 a = view31 P b) (h : upperEmpty a b) :
    view30 { a with max := x, exclMax := false } = view31 P { b with maximum := x } :=
  view_congr (fun w => { w with maximum := x, exclMax := none }) rfl (by simp only [view31, h.2.2.2]) e

end

theorem len31_of_agree (P : Parsers ν) (v : String) (n : Nat) (h : P.int v = some (n : Int)) : len31 P v = some n := by
  simp [len31, h]

theorem dropZero_some {n : Nat} (h : n ≠ 0) : dropZero (some n) = some n := by
  cases n with
  | zero => exact absurd rfl h
  | succ _ => rfl

/-- one rule preserves the invariant.  Outside its type guard a rule does nothing (`Sim.guard`); inside it, it writes one
    member that both views show alike (`Sim.other`, `view_congr`), or it is the one rule of its numeric side (`Sim.lower`,
    `Sim.upper`) -/
theorem step_sim (P : Parsers ν) (t : Ty) (k : Kind) : StepOK P t k := by
  intro a b v rest h hv hl hu
  obtain ⟨hnum, hlen, hbool, hplain⟩ := hv
  cases k with
  | unknown => exact h.noop rfl rfl
  | format f =>
    exact h.guard (fun _ => rfl) (fun _ => rfl) fun _ =>
      h.other rfl rfl (view_congr (fun w => { w with format := f }) rfl rfl) id id
  | pattern =>
    exact h.guard (fun _ => rfl) (fun _ => rfl) fun _ =>
      h.other rfl rfl (view_congr (fun w => { w with pattern := v }) rfl rfl) id id
  | gt =>
    refine h.guard eq_false_of_ne_true (fun _ => rfl) fun hn => ?_
    obtain ⟨x, hx⟩ := Option.isSome_iff_exists.1 (hnum (.inl hn))
    simp only [hx]
    exact h.lower hn rfl hl (lower_excl x) id
  | gte => exact h.guard eq_false_of_ne_true (fun _ => rfl) fun hn => h.lower hn rfl hl (lower_incl _) id
  | lt =>
    refine h.guard (fun _ => rfl) eq_false_of_ne_true fun hn => ?_
    obtain ⟨x, hx⟩ := Option.isSome_iff_exists.1 (hnum (.inr hn))
    simp only [hx]
    exact h.upper rfl hn hu (upper_excl x) id
  | lte => exact h.guard (fun _ => rfl) eq_false_of_ne_true fun hn => h.upper rfl hn hu (upper_incl _) id
  | min =>
    by_cases hs : t = .string
    · subst hs
      obtain ⟨n, hn, hi, -⟩ := hlen rfl
      simp only [apply30, apply31, hn, len31_of_agree P v n hi, if_true]
      exact h.other rfl rfl (view_congr (fun w => { w with minLength := n }) rfl rfl) id id
    · simp only [apply30, apply31, hs, if_false]
      exact h.guard eq_false_of_ne_true (fun _ => rfl) fun hn => h.lower hn rfl hl (lower_incl _) id
  | max =>
    by_cases hs : t = .string
    · subst hs
      obtain ⟨n, hn, hi, h0⟩ := hlen rfl
      simp only [apply30, apply31, hn, len31_of_agree P v n hi, if_true]
      exact h.other rfl rfl (view_congr (fun w => { w with maxLength := some n }) rfl
        (by simp only [view31, dropZero_some (h0 rfl)])) id id
    · simp only [apply30, apply31, hs, if_false]
      exact h.guard (fun _ => rfl) eq_false_of_ne_true fun hn => h.upper rfl hn hu (upper_incl _) id
  | len =>
    refine h.guard (fun _ => rfl) (fun _ => rfl) fun hs => ?_
    subst hs
    obtain ⟨n, hn, hi, h0⟩ := hlen rfl
    simp only [hn, len31_of_agree P v n hi]
    exact h.other rfl rfl (view_congr (fun w => { w with minLength := n, maxLength := some n }) rfl
      (by simp only [view31, dropZero_some (h0 rfl)]; rfl)) id id
  | minItems =>
    refine h.guard (fun _ => rfl) (fun _ => rfl) fun hs => ?_
    subst hs
    obtain ⟨n, hn, hi, -⟩ := hlen rfl
    simp only [hn, len31_of_agree P v n hi]
    exact h.other rfl rfl (view_congr (fun w => { w with minItems := n }) rfl rfl) id id
  | maxItems =>
    refine h.guard (fun _ => rfl) (fun _ => rfl) fun hs => ?_
    subst hs
    obtain ⟨n, hn, hi, h0⟩ := hlen rfl
    simp only [hn, len31_of_agree P v n hi]
    exact h.other rfl rfl (view_congr (fun w => { w with maxItems := some n }) rfl
      (by simp only [view31, dropZero_some (h0 rfl)])) id id
  | uniqueItems =>
    refine h.guard (fun _ => rfl) (fun _ => rfl) fun hs => ?_
    subst hs
    obtain ⟨x, hx⟩ := Option.isSome_iff_exists.1 (hbool ⟨rfl, rfl⟩)
    simp only [hx]
    exact h.other rfl rfl (view_congr (fun w => { w with uniqueItems := x }) rfl rfl) id id
  | enum =>
    simp only [apply30, apply31]
    cases he : enumValues v with
    | none => exact h.other rfl rfl (view_congr (fun w => { w with enum := [] }) rfl rfl) id id
    | some vals =>
      have hm := enum_members_agree P t vals fun ht m hmem => hplain m (by simp [plainMembers, ht, he, hmem])
      exact h.other rfl rfl (view_congr (fun w => { w with enum := members30 P t vals }) rfl
        (by simp only [view31, hm])) id id
  | oneof =>
    simp only [apply30, apply31]
    split
    · exact h.noop rfl rfl
    · have hm := oneof_members_agree P t (fields v) fun ht m hmem => hplain m (by
        simp only [plainMembers]; rcases ht with h | h | h <;> simp [h, hmem])
      exact h.other rfl rfl (view_congr (fun w => { w with enum := members30 P t (fields v) }) rfl
        (by simp only [view31, hm])) id id

theorem countP_le_cons {α} (p : α → Bool) (x : α) (l : List α) : countP p l ≤ countP p (x :: l) := by
  rw [countP_cons]; omega

theorem Agreeable.tail {P : Parsers ν} {t : Ty} {r : Kind × String} {rs : List (Kind × String)}
    (h : Agreeable P t (r :: rs)) : Agreeable P t rs :=
  ⟨fun x hx => h.1 x (List.mem_cons_of_mem r hx), Nat.le_trans (countP_le_cons _ r rs) h.2.1,
    Nat.le_trans (countP_le_cons _ r rs) h.2.2⟩

theorem run_sim (P : Parsers ν) (t : Ty) : ∀ (rs : List (Kind × String)) (a : S30 ν) (b : S31 ν),
    Sim P t a b rs → Agreeable P t rs → view30 (rs.foldl (apply30 P t) a) = view31 P (rs.foldl (apply31 P t) b)
  | [], _, _, h, _ => h.1
  | (k, v) :: rest, a, b, h, hr =>
    run_sim P t rest _ _ (step_sim P t k a b v rest h (hr.1 _ List.mem_cons_self) hr.2.1 hr.2.2) hr.tail

/-- **The two converters agree.**  For every rule list both understand (`Agreeable`), of every schema type, and
    for all parsers: the 3.0 schema and the 3.1 schema say the same — format, numeric bounds (after the
    dialect translation), lengths, pattern, item counts, uniqueness, enum members. -/
theorem converters_agree (P : Parsers ν) (t : Ty) (rs : List (Kind × String)) (h : Agreeable P t rs) :
    view30 (rs.foldl (apply30 P t) {}) = view31 P (rs.foldl (apply31 P t) {}) :=
  run_sim P t rs {} {} ⟨rfl, fun _ => ⟨rfl, rfl, rfl, rfl⟩, fun _ => ⟨rfl, rfl, rfl, rfl⟩⟩ h

/-- … stated on the tag text: `strings.Split(tag, ",")`, `SplitN(rule, "=", 2)`, the `switch` -/
theorem converters_agree_tag (P : Parsers ν) (t : Ty) (tag : String) (h : Agreeable P t (parseRules tag)) :
    view30 (conv30 P t tag) = view31 P (conv31 P t tag) := converters_agree P t _ h

/-! ### both hypotheses are necessary (witnesses on the decimal parsers) -/

/-- two rules on one numeric side: 3.0 keeps the last, 3.1 keeps both (finding C11-F3) -/
theorem two_bounds_one_side_differ :
    view30 ([(Kind.gte, "1"), (Kind.gt, "2")].foldl (apply30 intParsers .integer) {}) ≠
      view31 intParsers ([(Kind.gte, "1"), (Kind.gt, "2")].foldl (apply31 intParsers .integer) {}) := by decide +kernel

/-- a value only one converter reads: 3.0 ignores an unparsable length, 3.1 clears the member -/
theorem unparsable_value_differs :
    view30 ([(Kind.min, "2"), (Kind.min, "abc")].foldl (apply30 intParsers .string) {}) ≠
      view31 intParsers ([(Kind.min, "2"), (Kind.min, "abc")].foldl (apply31 intParsers .string) {}) := by decide +kernel

/-- an upper count of zero: 3.0 documents `maxItems: 0`, the 3.1 renderer drops it (finding C11-F8) -/
theorem zero_upper_count_differs :
    view30 ([(Kind.maxItems, "0")].foldl (apply30 intParsers .array) {}) ≠
      view31 intParsers ([(Kind.maxItems, "0")].foldl (apply31 intParsers .array) {}) := by decide +kernel

/-- `valueOK` is decidable where numbers can be compared: its `∃ n, P.uint r.2 = some n ∧ …` is a bounded
    quantifier over the `Option`, which core decides -/
instance [DecidableEq ν] (P : Parsers ν) (t : Ty) (r : Kind × String) : Decidable (valueOK P t r) :=
  inferInstanceAs (Decidable (_ ∧ (_ → ∃ n : Nat, n ∈ P.uint r.2 ∧ _) ∧ _))

instance [DecidableEq ν] (P : Parsers ν) (t : Ty) (rs : List (Kind × String)) : Decidable (Agreeable P t rs) :=
  inferInstanceAs (Decidable (_ ∧ _))

/-- `Agreeable` is satisfiable by a tag that uses every slot -/
example : Agreeable intParsers .string
    [(kindOf "email", ""), (kindOf "min", "2"), (kindOf "max", "10"), (kindOf "pattern", "^a+$"), (kindOf "oneof", "1 true x"), (kindOf "required", "")] := by
  decide +kernel

example : Agreeable intParsers .integer [(Kind.gt, "0"), (Kind.lte, "9"), (Kind.enum, "1|2")] := by
  decide +kernel

/-! ### what is written into `enum` belongs to the schema's type (C08) -/

theorem members30_typed (P : Parsers ν) (t : Ty) (ht : t.scalar = true) (vals : List String) :
    ∀ m ∈ members30 P t vals, memberOfType t m = true := by
  intro m hm
  cases t
  · simp only [members30, List.mem_map] at hm; obtain ⟨v, _, rfl⟩ := hm; rfl
  · simp only [members30, List.mem_filterMap] at hm; obtain ⟨v, _, hv⟩ := hm
    cases hp : P.int v <;> simp [hp] at hv; subst hv; rfl
  · simp only [members30, List.mem_filterMap] at hm; obtain ⟨v, _, hv⟩ := hm
    cases hp : P.num v <;> simp [hp] at hv; subst hv; rfl
  · simp only [members30, List.mem_filterMap] at hm; obtain ⟨v, _, hv⟩ := hm
    cases hp : P.bool v <;> simp [hp] at hv; subst hv; rfl
  · exact absurd ht (by decide)
  · exact absurd ht (by decide)

/-- **3.0**: after any rule list, every enum member of a scalar schema is a value of the schema's type -/
theorem enum30_typed (P : Parsers ν) (t : Ty) (ht : t.scalar = true) (rs : List (Kind × String)) :
    ∀ (a : S30 ν), (∀ m ∈ a.enum, memberOfType t m = true) →
      ∀ m ∈ (rs.foldl (apply30 P t) a).enum, memberOfType t m = true := by
  refine foldl_induct (fun _ (s : S30 ν) => ∀ m ∈ s.enum, memberOfType t m = true) (fun (k, v) _ a h => ?_) rs
  -- only `enum=` and `oneof=` write the members (typed ones, or none); every other kind leaves them alone, on
  -- either side of each of its guards (the `split`s)
  cases k <;> dsimp only [apply30] <;> (try split) <;> (try split) <;> (try split) <;> first
    | exact h
    | exact members30_typed P t ht _
    | (intro m hm; cases hm)

/-- **3.1**: after any rule list, every enum member of a STRING schema is text (tagged `!!str`), never an
    untagged scalar the renderer might read as a number or a boolean -/
theorem enum31_string_typed (P : Parsers ν) (rs : List (Kind × String)) :
    ∀ (b : S31 ν), (∀ m ∈ b.enum, memberOfType Ty.string m = true) →
      ∀ m ∈ (rs.foldl (apply31 P .string) b).enum, memberOfType Ty.string m = true := by
  refine foldl_induct (fun _ (s : S31 ν) => ∀ m ∈ s.enum, memberOfType Ty.string m = true) (fun (k, v) _ b h => ?_) rs
  -- on a string schema every type guard is decided; what is left to split is whether `enum=` / `oneof=` name members
  cases k <;> simp only [apply31, Ty.numeric, Bool.false_eq_true, if_false, if_true, reduceCtorEq] <;> (try split) <;> first
    | exact h
    | (intro m hm; simp [enum31, oneof31] at hm; obtain ⟨_, _, rfl⟩ := hm; rfl)
    | (intro m hm; cases hm)

end Gleece.Conv
