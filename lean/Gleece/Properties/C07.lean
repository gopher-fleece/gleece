/-
  C07 — Component schemas mirror Go declarations, independent of how a type is used.

  Model: Gleece/Model/Types.lean.  Proved here, for every list of declarations and every set of usage
  sites (no bound on the number of types, the nesting of slices / pointers / maps, or cycles):
   * the computed component set is EXACTLY the set of declarations reachable from a route's parameters or
     results (`components_exact`, of which `components_sound` and `components_complete` are the halves; `closure_closed` in
     Lemmas/Types shows that `ds.length + 1` rounds always reach a closed set: a round that does not
     leave one adds a declared name); any closed set containing the roots — in particular the implementation's own key set, on
     which the driver evaluates `isClosed` — contains every reachable type (`closed_contains_reach`);
   * the component of a type is `Decl.component` of its declaration: two projects that share the
     declaration give the same component whatever their routes, tags and other types are
     (`component_of_declaration_alone`, `usage_site_never_changes_component`);
   * adding usage sites never removes a component (`components_monotone`);
   * a struct's properties are exactly its JSON-visible, non-embedded fields under their JSON names with
     the mapped type, `required` ⊆ properties (`props_exact`, `required_are_props`); unexported fields and
     fields tagged `json:"-"` are not properties; embedded structs appear only in allOf.
  The correspondence (driver, mode proj / C07) compares `components` with components.schemas of both
  documents emitted by the real pipeline for generated type graphs.
-/
import Gleece.Lemmas.Types
namespace Gleece.Types

/-- with more rounds than declarations the computed set is the reachable set: sound by `closure_reach`,
    complete because it is closed -/
theorem mem_closure_iff_reach (ds : List Decl) (roots : List TName) {k : Nat} (hk : ds.length < k) (n : TName) :
    n ∈ closure ds k roots ↔ Reach ds roots n :=
  ⟨closure_reach _ _ (fun _ => .root) n,
   closed_contains_reach (fun _ => subset_closure _) (closure_closed_of_lt ds roots hk)⟩

/-- **exactly the reachable declarations**, each as the image of its own declaration -/
theorem components_exact (ds : List Decl) (usages : List TExpr) (n : TName) (c : Component) :
    (n, c) ∈ components ds usages ↔ Reach ds (rootsOf usages) n ∧ ∃ d, lookup ds n = some d ∧ c = d.component := by
  simp only [components, List.mem_filterMap, mem_closure_iff_reach ds _ (Nat.lt_succ_self _), Option.map_eq_some_iff,
    Prod.mk.injEq]
  constructor
  · rintro ⟨m, hm, d, hl, rfl, rfl⟩; exact ⟨hm, d, hl, rfl⟩
  · rintro ⟨hr, d, hl, rfl⟩; exact ⟨n, hr, d, hl, rfl, rfl⟩

/-- **only reachable declarations become components, each as the image of its own declaration** -/
theorem components_sound (ds : List Decl) (usages : List TExpr) (n : TName) (c : Component)
    (h : (n, c) ∈ components ds usages) :
    Reach ds (rootsOf usages) n ∧ ∃ d, lookup ds n = some d ∧ c = d.component :=
  (components_exact ds usages n c).1 h

/-- **every reachable declaration becomes a component** (the computed set is closed: `closure_closed`) -/
theorem components_complete (ds : List Decl) (usages : List TExpr)
    (n : TName) (d : Decl) (hr : Reach ds (rootsOf usages) n) (hl : lookup ds n = some d) :
    (n, d.component) ∈ components ds usages :=
  (components_exact ds usages n _).2 ⟨hr, d, hl, rfl⟩

/-- even across two different projects: if both declare `n` identically, its component is identical —
    other declarations, other routes, validator tags at usage sites are irrelevant -/
theorem usage_site_never_changes_component (ds₁ ds₂ : List Decl) (u₁ u₂ : List TExpr) (n : TName) (c₁ c₂ : Component)
    (hsame : lookup ds₁ n = lookup ds₂ n)
    (h₁ : (n, c₁) ∈ components ds₁ u₁) (h₂ : (n, c₂) ∈ components ds₂ u₂) : c₁ = c₂ := by
  obtain ⟨_, d₁, hl₁, rfl⟩ := components_sound ds₁ u₁ n c₁ h₁
  obtain ⟨_, d₂, hl₂, rfl⟩ := components_sound ds₂ u₂ n c₂ h₂
  rw [hsame, hl₂] at hl₁
  cases hl₁
  rfl

/-- **a type's schema is a function of its declaration alone**: whatever the usage sites are, if the
    type is a component at all it is the same component -/
theorem component_of_declaration_alone (ds : List Decl) (u₁ u₂ : List TExpr) (n : TName) (c₁ c₂ : Component)
    (h₁ : (n, c₁) ∈ components ds u₁) (h₂ : (n, c₂) ∈ components ds u₂) : c₁ = c₂ :=
  usage_site_never_changes_component ds ds u₁ u₂ n c₁ c₂ rfl h₁ h₂

theorem reach_mono {ds : List Decl} {r₁ r₂ : List TName} (h : ∀ n ∈ r₁, n ∈ r₂) {n : TName}
    (hr : Reach ds r₁ n) : Reach ds r₂ n := by
  induction hr with
  | root hn => exact Reach.root (h _ hn)
  | step _ hl hn ih => exact Reach.step ih hl hn

/-- **using a type from another route never removes or changes a component** -/
theorem components_monotone (ds : List Decl) (u₁ u₂ : List TExpr)
    (hsub : ∀ n ∈ rootsOf u₁, n ∈ rootsOf u₂)
    (n : TName) (c : Component) (h : (n, c) ∈ components ds u₁) : (n, c) ∈ components ds u₂ := by
  obtain ⟨hr, d, hl, rfl⟩ := components_sound ds u₁ n c h
  exact components_complete ds u₂ n d (reach_mono hsub hr) hl

/-- **properties are exactly the JSON-visible, non-embedded fields**, under their JSON names, with the
    mapped type -/
theorem props_exact (fs : List Field) (name : String) (s : Sch) :
    (name, s) ∈ (structObj fs).props ↔ ∃ f ∈ fs, f.embedded = false ∧ f.jsonName = some name ∧ s = f.ty.schema := by
  simp only [structObj, List.mem_map, List.mem_filterMap, Prod.exists, Prod.mk.injEq, Option.ite_none_left_eq_some,
    Option.map_eq_some_iff, Bool.not_eq_true]
  constructor
  · rintro ⟨_, _, ⟨g, hg, he, _, hn, rfl, rfl⟩, rfl, rfl⟩
    exact ⟨g, hg, he, hn, rfl⟩
  · rintro ⟨f, hf, he, hj, rfl⟩
    exact ⟨name, f, ⟨f, hf, he, name, hj, rfl, rfl⟩, rfl, rfl⟩

/-- exactly the unexported fields and the fields tagged `json:"-"` have no JSON name -/
theorem jsonName_eq_none_iff (f : Field) :
    f.jsonName = none ↔ exportedName f.name = false ∨ f.jsonTag = some "-" := by
  unfold Field.jsonName
  cases exportedName f.name <;> cases f.jsonTag <;> simp

/-- an unexported field is never a property -/
theorem unexported_hidden (f : Field) (h : exportedName f.name = false) : f.jsonName = none :=
  (jsonName_eq_none_iff f).2 (.inl h)

/-- a field tagged `json:"-"` is never a property -/
theorem dash_hidden (f : Field) (h : f.jsonTag = some "-") : f.jsonName = none :=
  (jsonName_eq_none_iff f).2 (.inr h)

/-- `required` lists only properties -/
theorem required_are_props (fs : List Field) (name : String) (h : name ∈ (structObj fs).required) :
    ∃ s, (name, s) ∈ (structObj fs).props := by
  unfold structObj at *
  simp only [List.mem_map, List.mem_filter] at h
  obtain ⟨⟨n, f⟩, ⟨hm, _⟩, rfl⟩ := h
  exact ⟨f.ty.schema, List.mem_map.2 ⟨(n, f), hm, rfl⟩⟩

/-- a pointer is documented as its element; slices and maps nest -/
theorem schema_shapes (t : TExpr) :
    (TExpr.ptr t).schema = t.schema ∧ (TExpr.slice t).schema = .arr t.schema ∧ (TExpr.map t).schema = .dict t.schema :=
  ⟨rfl, rfl, rfl⟩

/-- a reference never mentions more types than its element -/
theorem refs_through_wrappers (t : TExpr) :
    (TExpr.ptr t).refs = t.refs ∧ (TExpr.slice t).refs = t.refs ∧ (TExpr.map t).refs = t.refs := ⟨rfl, rfl, rfl⟩

/-! ### non-vacuity: a self-recursive struct reached through a slice of pointers, an enum reached through a
    map, a type nobody uses -/
def exDecls : List Decl := [
  ⟨("m", "Node"), "", .struct [⟨"Kids", .slice (.ptr (.named ("m", "Node"))), some "kids", false, false⟩,
                               ⟨"Tags", .map (.named ("m", "Color")), some "tags,omitempty", true, false⟩,
                               ⟨"hidden", .prim "string", none, false, false⟩,
                               ⟨"Skip", .prim "int", some "-", false, false⟩,
                               ⟨"Base", .named ("o", "Base"), none, false, true⟩]⟩,
  ⟨("m", "Color"), "", .enum "string" ["red", "green"]⟩,
  ⟨("o", "Base"), "", .struct [⟨"At", .prim "time.Time", some "at", false, false⟩]⟩,
  ⟨("m", "Unused"), "", .alias (.prim "string")⟩]

example : (components exDecls [.slice (.named ("m", "Node"))]).map (·.1) = [("m", "Node"), ("m", "Color"), ("o", "Base")] := by
  decide +kernel
example : isClosed exDecls (closure exDecls (exDecls.length + 1) (rootsOf [.slice (.named ("m", "Node"))])) = true := by
  decide +kernel
example : (structObj [⟨"Kids", .slice (.ptr (.named ("m", "Node"))), some "kids", false, false⟩,
                      ⟨"Tags", .map (.named ("m", "Color")), some "tags,omitempty", true, false⟩,
                      ⟨"hidden", .prim "string", none, false, false⟩,
                      ⟨"Skip", .prim "int", some "-", false, false⟩]) =
    ⟨[("kids", .arr (.ref "Node")), ("tags", .dict (.ref "Color"))], ["tags"]⟩ := by
  decide +kernel

end Gleece.Types
