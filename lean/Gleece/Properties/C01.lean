/-
  C01 — OpenAPI operations are exactly the non-hidden annotated routes.

  IR-level model: `Gleece/Model/IR.lean` (`visibleOps`, `emitOps`), tied to both emitters
  (`swagen30/paths_generator.go`, `swagen31/paths_generatorv31.go`) by the `ir` correspondence stream
  (hand-built flattened metadata through the real `swagen.GenerateSpec`) and to the front end
  (source → IR) by the `proj` stream.
-/
import Gleece.Model.IR
import Gleece.Lemmas.Assoc
namespace Gleece.IR
open Gleece.Assoc

/-- what `visibleOps` contains: exactly one signature per non-hidden route, built from that route and
    ITS OWN controller (prefix and tag never come from another controller) -/
theorem mem_visibleOps (cs : List Controller) (o : OpSig) :
    o ∈ visibleOps cs ↔ ∃ c ∈ cs, ∃ r ∈ c.routes, r.hidden = false ∧
      o = ⟨r.verb, fullPath c r, r.opId, c.tag, r.deprecated⟩ := by
  simp only [visibleOps, List.mem_flatMap, List.mem_map, List.mem_filter, Bool.not_eq_true', and_assoc, eq_comm (b := o)]

/-- reading the emitted map at a key: the LAST visible operation with that key -/
theorem emitOps_get (cs : List Controller) (k : String × String) :
    get? (emitOps cs) k = get? ((visibleOps cs).map fun o => (o.key, o)).reverse k :=
  get?_setAll_nil _ k

/-- **Nothing is invented.** Whatever operation sits at (path, verb) in the emitted document is one of
    the non-hidden annotated routes with that verb and normalised path. -/
theorem emitOps_sound (cs : List Controller) (k : String × String) (o : OpSig)
    (h : get? (emitOps cs) k = some o) : o ∈ visibleOps cs ∧ o.key = k := by
  rw [emitOps_get] at h
  obtain ⟨o', ho', he⟩ := List.mem_map.1 (List.mem_reverse.1 (mem_of_get? h))
  cases he; exact ⟨ho', rfl⟩

/-- **Nothing annotated is dropped.** Every non-hidden route's (path, verb) carries an operation. -/
theorem emitOps_complete (cs : List Controller) (o : OpSig) (h : o ∈ visibleOps cs) :
    ∃ o', get? (emitOps cs) o.key = some o' := by
  rw [emitOps_get, ← Option.isSome_iff_exists, get?_isSome, ← List.map_reverse, List.map_map]
  exact List.mem_map.2 ⟨o, List.mem_reverse.2 h, rfl⟩

/-- **Exactly.** When no two non-hidden routes share verb and normalised path (the situation C15 warns
    about), the emitted operations are precisely the non-hidden annotated routes, each with the method
    name as operationId, its controller's tag and the method's deprecation flag. -/
theorem emitOps_exact (cs : List Controller) (h : noVerbPathCollision cs) :
    emitOps cs = (visibleOps cs).map fun o => (o.key, o) :=
  setAll_nodup _ (by rw [List.map_map]; exact h)

/-- **C01**: without collisions, the operation documented at (path, verb) is exactly the non-hidden annotated route
    with that verb and normalised path -/
theorem c01_iff (cs : List Controller) (h : noVerbPathCollision cs) (v p : String) (o : OpSig) :
    get? (emitOps cs) (p, v) = some o ↔
      ∃ c ∈ cs, ∃ r ∈ c.routes, r.hidden = false ∧ r.verb = v ∧ fullPath c r = p ∧
        o = ⟨r.verb, fullPath c r, r.opId, c.tag, r.deprecated⟩ := by
  rw [emitOps_exact cs h, get?_eq_some_iff (by rw [List.map_map]; exact h), List.mem_map]
  constructor
  · rintro ⟨o', ho', he⟩
    cases he
    obtain ⟨c, hc, r, hr, hh, rfl⟩ := (mem_visibleOps cs o).1 ho'
    exact ⟨c, hc, r, hr, hh, rfl, rfl, rfl⟩
  · rintro ⟨c, hc, r, hr, hh, rfl, rfl, rfl⟩
    exact ⟨_, (mem_visibleOps cs _).2 ⟨c, hc, r, hr, hh, rfl⟩, rfl⟩

/-! ### `RemoveDuplicateSlash` leaves no doubled slash -/

theorem squeeze_head? (s : Text.Str) : (squeeze s).head? = s.head? := by
  fun_induction squeeze s with
  | case1 | case2 | case4 => rfl
  | case3 x y t hxy ih => rw [ih, hxy.1, hxy.2]; rfl

theorem squeeze_no_dd : ∀ (s : Text.Str) (c d : Char) (pre post : Text.Str),
    squeeze s = pre ++ c :: d :: post → ¬ (c = '/' ∧ d = '/') := by
  intro s
  fun_induction squeeze s with
  | case1 => intro c d pre post h; cases pre <;> cases h
  | case2 x => intro c d pre post h; cases pre <;> simp at h
  | case3 x y t hxy ih => exact ih
  | case4 x y t hxy ih =>
    intro c d pre post h
    cases pre with
    | nil =>
      obtain ⟨rfl, h'⟩ := List.cons.inj h
      have hy := squeeze_head? (y :: t)
      rw [h'] at hy
      cases hy
      exact hxy
    | cons p ps => exact ih c d ps post (List.cons.inj h).2

/-! ### non-vacuity -/

private def exCs : List Controller :=
  [{ name := "A", tag := "TA", path := "/a/", routes :=
      [{ opId := "List", verb := "GET", path := "//items" }, { opId := "Secret", verb := "GET", path := "/x", hidden := true }] },
   { name := "B", tag := "TB", path := "b", routes := [{ opId := "Get", verb := "GET", path := "/items", deprecated := true }] }]
example : visibleOps exCs = [⟨"GET", "/a/items", "List", "TA", false⟩, ⟨"GET", "b/items", "Get", "TB", true⟩] := by decide +kernel
example : ((visibleOps exCs).map OpSig.key).Nodup := by decide +kernel

end Gleece.IR
