/-
  C16 — Annotation comments parse back to exactly what was written.

  Model: `Gleece/Model/Annot.lean` (`parseLine`, `holderOf`, `getDescription`), tied to
  `core/annotations/holder.go` by (a) the pinned regex source text (`Gleece/Generated/Regexes.lean`,
  regenerated from holder.go on every run) and (b) the differential correspondence on
  `annotations.NewAnnotationHolder` (mode `annot`).
-/
import Gleece.Lemmas.Annot
import Gleece.Generated.Regexes
namespace Gleece.Annot
open Gleece.Text

/-- The matcher was derived from exactly this regular expression; a changed regex in holder.go breaks
    this obligation at `lake build`. -/
theorem regex_text_is_modelled :
    Gleece.Generated.parsingRegex =
      "^// @(\\w+)(?:(?:\\(([\\w-_/\\\\{} ]+))(?:\\s*,\\s*(\\{.*\\}))?\\))?(?:\\s+(.+))?$" := rfl

/-- **Round trip.** A well-formed written annotation parses back to exactly its name, value, JSON5 text
    and description. -/
theorem parseTrimmed_render (w : Written) (h : WF w = true) :
    (parseTrimmed (render w)).map RawAttr.core = some (w.name, w.value, w.json, w.desc) := by
  simp only [WF, Bool.and_eq_true, and_assoc] at h
  obtain ⟨hn1, hn2, hparen, hjson, hs1, hs2, hs1h, hdesc, -, hamb⟩ := h
  have hn1 : w.name ≠ [] := by simpa using hn1
  obtain ⟨hD1, hD2⟩ := tailOk_rendered w.gap w.desc hdesc
  unfold render
  generalize (if w.desc.isEmpty then [] else w.gap ++ w.desc) = D at hD1 hD2 hamb ⊢
  cases hp : w.paren with
  | false =>
    simp only [hp, Bool.false_eq_true, if_false, Bool.and_eq_true, List.isEmpty_iff] at hparen
    rw [if_neg Bool.false_ne_true, List.append_nil, List.append_assoc,
      parseTrimmed_pfx _ _ hn1 hn2 fun c hc => reSpace_not_word c (tailOk_head hD1 c hc), parseRest_of_tailOk _ _ hD1]
    simp [RawAttr.core, hparen.1, hparen.2, hD2]
  | true =>
    simp only [hp, if_true, Bool.and_eq_true, Bool.not_eq_true', List.isEmpty_eq_false_iff] at hparen
    have hpfx := fun R => parseTrimmed_pfx w.name ('(' :: R) hn1 hn2 (not_starts_cons rfl R)
    by_cases hj : w.json = []
    · simp only [hj, List.isEmpty_nil, if_true, List.append_assoc, List.cons_append, List.nil_append]
      rw [hpfx, parseRest_paren, parseParen_plain _ _ _ _ hparen.1 hparen.2 hD1, hD2]
    · simp only [List.isEmpty_eq_false_iff.2 hj, Bool.false_or, Bool.and_eq_true, decide_eq_true_eq,
        Option.isNone_iff_eq_none, Bool.false_eq_true, if_false, if_true, List.append_assoc, List.cons_append,
        List.nil_append] at hjson hamb ⊢
      rw [hpfx, parseRest_paren, parseParen_json _ _ _ _ _ _ _ hparen.1 hparen.2 hs1 hs2 ((head_not_iff _ _).1 hs1h)
        hjson.1 hjson.2 hD1 hamb, hD2]

/-- … and therefore through `parseLine`, which trims first. -/
theorem parse_render (w : Written) (h : WF w = true) :
    (parseLine (render w)).map RawAttr.core = some (w.name, w.value, w.json, w.desc) := by
  have htrim := h
  simp only [WF, Bool.and_eq_true] at htrim
  -- the last clause but one: the text is what `strings.TrimSpace` leaves
  obtain ⟨⟨-, htrim⟩, -⟩ := htrim
  rw [parseLine, beq_iff_eq.1 htrim]
  exact parseTrimmed_render w h

/-! ### nothing is invented: every captured part is a substring of the line, in order -/

theorem parseParen_sound (name r1 : Str) (v : Nat) (a : RawAttr) (h : parseParen name v r1 = some a) :
    a.name = name ∧ a.value ≠ [] ∧ a.value.all isValueChar = true ∧
    ((a.json = [] ∧ ∃ tl, r1 = a.value ++ ')' :: tl ∧ tailOk tl = true ∧ a.desc = tailDesc tl) ∨
     (a.json.head? = some '{' ∧ a.json.getLast? = some '}' ∧ ∃ s1 s2 tl, s1.all isReSpace = true ∧ s2.all isReSpace = true ∧
        r1 = a.value ++ (s1 ++ ',' :: (s2 ++ (a.json ++ ')' :: tl))) ∧ tailOk tl = true ∧ a.desc = tailDesc tl)) := by
  obtain ⟨value, r2, hs, rfl, hall⟩ := span_spec isValueChar r1
  unfold parseParen at h
  simp only [hs, Option.ite_none_left_eq_some, List.isEmpty_iff] at h
  obtain ⟨hve, h⟩ := h
  cases htj : tryJson r2 with
  | some x =>
    obtain ⟨j, tl, skip⟩ := x
    rw [htj] at h
    cases h
    obtain ⟨h1, h2, h3, s1, s2, hs1, hs2, rfl⟩ := tryJson_sound _ _ _ _ htj
    exact ⟨rfl, hve, hall, Or.inr ⟨h1, h2, s1, s2, tl, hs1, hs2, rfl, h3, rfl⟩⟩
  | none =>
    rw [htj] at h
    cases r2 with
    | nil => cases h
    | cons c tl =>
      simp only [Option.ite_none_right_eq_some, Bool.and_eq_true, decide_eq_true_eq, Option.some.injEq] at h
      obtain ⟨⟨rfl, ht⟩, rfl⟩ := h
      exact ⟨rfl, hve, hall, Or.inl ⟨rfl, tl, rfl, ht, rfl⟩⟩

/-- **Soundness of the matcher**: whatever `parseTrimmed` returns re-assembles to the text it was given —
    `// @name`, optionally `(value[ws , ws json])`, optionally white space and the description.  Nothing is
    invented: every captured part is a contiguous piece of the line, in order. -/
theorem parseTrimmed_sound (t : Str) (a : RawAttr) (h : parseTrimmed t = some a) :
    a.name ≠ [] ∧ a.name.all isReWord = true ∧
    ∃ rest, t = pfx ++ a.name ++ rest ∧
      ((rest = [] ∧ a.value = [] ∧ a.json = [] ∧ a.desc = []) ∨
       (tailOk rest = true ∧ rest ≠ [] ∧ a.value = [] ∧ a.json = [] ∧ a.desc = tailDesc rest) ∨
       (∃ r1, rest = '(' :: r1 ∧ parseParen a.name (pfx.length + a.name.length + 1) r1 = some a)) := by
  unfold parseTrimmed at h
  simp only [Option.ite_none_left_eq_some, Bool.not_eq_true', Bool.not_eq_false, hasPrefix_iff, List.isEmpty_iff] at h
  obtain ⟨⟨r0, rfl⟩, h⟩ := h
  obtain ⟨name, r, hs, rfl, hall⟩ := span_spec isReWord r0
  simp only [List.drop_left, hs] at h
  obtain ⟨hne, h⟩ := h
  cases r with
  | nil =>
    cases h
    exact ⟨hne, hall, [], by simp, Or.inl ⟨rfl, rfl, rfl, rfl⟩⟩
  | cons c r1 =>
    rw [parseRest] at h
    by_cases hc : c = '('
    · rw [if_pos hc] at h
      obtain rfl : a.name = name := (parseParen_sound _ _ _ _ h).1
      exact ⟨hne, hall, c :: r1, by simp, Or.inr (Or.inr ⟨r1, by rw [hc], h⟩)⟩
    · simp only [if_neg hc, Option.ite_none_right_eq_some, Bool.and_eq_true, Option.some.injEq] at h
      obtain ⟨⟨-, ht⟩, rfl⟩ := h
      exact ⟨hne, hall, c :: r1, by simp, Or.inr (Or.inl ⟨ht, by simp, rfl, rfl, rfl⟩)⟩

/-! ### the holder: source order, description rule, JSON5 errors are never dropped -/

/-- the attributes a left-to-right scan of the block finds, each with the index of its line -/
def scanAttrs (i : Nat) : List Str → List (Nat × RawAttr)
  | [] => []
  | l :: rest => (match parseLine l with | some a => [(i, a)] | none => []) ++ scanAttrs (i + 1) rest

def scanFree (i : Nat) : List Str → List (Nat × Str)
  | [] => []
  | l :: rest => (match parseLine l with | some _ => [] | none => [(i, freeText l)]) ++ scanFree (i + 1) rest

def badJson (jsonOk : Str → Bool) (l : Str) : Bool :=
  match parseLine l with
  | some a => !a.json.isEmpty && !jsonOk a.json
  | none => false

theorem badJson_iff (jsonOk : Str → Bool) (l : Str) :
    badJson jsonOk l = true ↔ ∃ a, parseLine l = some a ∧ a.json ≠ [] ∧ jsonOk a.json = false := by
  unfold badJson
  cases parseLine l <;> simp

/-- the loop of `NewAnnotationHolder` in closed form: it stops at the first line with a rejected JSON5 part,
    and otherwise has appended the two scans to what it started with -/
theorem holderOf_go_eq (jsonOk : Str → Bool) (ls : List Str) (i : Nat) (h0 : Holder) :
    holderOf.go jsonOk i ls h0 =
      if ls.any (badJson jsonOk) then .jsonError (i + ls.findIdx (badJson jsonOk))
      else .ok ⟨h0.attrs ++ scanAttrs i ls, h0.free ++ scanFree i ls⟩ := by
  induction ls generalizing i h0 with
  | nil => simp [holderOf.go, scanAttrs, scanFree]
  | cons l rest ih =>
    rw [holderOf.go, List.any_cons, List.findIdx_cons, scanAttrs, scanFree, badJson]
    cases parseLine l with
    | none => simp [ih, Nat.add_assoc, Nat.add_comm 1]
    | some a =>
      by_cases hb : (!a.json.isEmpty && !jsonOk a.json) = true <;> simp [hb, ih, Nat.add_assoc, Nat.add_comm 1]

theorem holderOf_eq (jsonOk : Str → Bool) (lines : List Str) :
    holderOf jsonOk lines =
      if lines.any (badJson jsonOk) then .jsonError (lines.findIdx (badJson jsonOk))
      else .ok ⟨scanAttrs 0 lines, scanFree 0 lines⟩ := by
  simp [holderOf, holderOf_go_eq]

/-- **Attribute order is source order**; lines that do not match are kept as free text (trimmed of the
    `//` prefix and surrounding blanks) and never yield attributes. -/
theorem holder_order (jsonOk : Str → Bool) (lines : List Str) (h : Holder) (hok : holderOf jsonOk lines = .ok h) :
    h.attrs = scanAttrs 0 lines ∧ h.free = scanFree 0 lines := by
  rw [holderOf_eq] at hok
  split at hok <;> cases hok
  exact ⟨rfl, rfl⟩

/-- **Malformed JSON5 is reported, never silently dropped**: the holder is an error exactly when some
    annotation line carries a JSON5 part the parser rejects. -/
theorem json_error_not_dropped (jsonOk : Str → Bool) (lines : List Str) :
    (∃ i, holderOf jsonOk lines = .jsonError i) ↔
    ∃ l ∈ lines, ∃ a, parseLine l = some a ∧ a.json ≠ [] ∧ jsonOk a.json = false := by
  rw [holderOf_eq]
  simp only [← badJson_iff, ← List.any_eq_true]
  split <;> simp [*]

/-- the property's wording of the description rule, stated over the source lines -/
def specDescription (lines : List Str) : Str :=
  match (lines.filterMap parseLine).find? (fun a => a.name = descriptionName) with
  | some a => a.desc
  | none => joinLines (dropTrailingEmpty ((lines.takeWhile fun l => (parseLine l).isNone).map freeText))

/-- free lines after an annotation line are not leading: their indices are beyond the next expected one -/
theorem leadingFree_scanFree_of_lt {n j : Nat} (h : n < j) (ls : List Str) : leadingFree n (scanFree j ls) = [] := by
  induction ls generalizing j with
  | nil => rfl
  | cons l rest ih =>
    rw [scanFree]
    cases parseLine l with
    | none => simp [leadingFree, h]
    | some a => exact ih (Nat.lt_succ_of_lt h)

theorem leadingFree_scanFree (i : Nat) (ls : List Str) :
    leadingFree i (scanFree i ls) = (ls.takeWhile fun l => (parseLine l).isNone).map freeText := by
  induction ls generalizing i with
  | nil => rfl
  | cons l rest ih =>
    rw [scanFree, List.takeWhile_cons]
    cases parseLine l with
    | none => simp [leadingFree, ih]
    | some a => simpa using leadingFree_scanFree_of_lt (Nat.lt_succ_self i) rest

theorem scanAttrs_map (i : Nat) (ls : List Str) : (scanAttrs i ls).map (·.2) = ls.filterMap parseLine := by
  induction ls generalizing i with
  | nil => rfl
  | cons l rest ih => cases hp : parseLine l <;> simp [scanAttrs, hp, ih]

/-- **Description rule**: the entity description is the `@Description` text if present, otherwise the
    leading contiguous free-text lines (trailing empty ones dropped). -/
theorem description_rule (jsonOk : Str → Bool) (lines : List Str) (h : Holder)
    (hok : holderOf jsonOk lines = .ok h) : getDescription h = specDescription lines := by
  obtain ⟨ha, hf⟩ := holder_order jsonOk lines h hok
  rw [getDescription, specDescription, ha, hf, leadingFree_scanFree, ← scanAttrs_map 0, List.find?_map,
    Function.comp_def]
  cases List.find? _ (scanAttrs 0 lines) <;> rfl

/-! ### non-vacuity -/

private def exW : Written :=
  { name := "Query".toList, paren := true, value := "name".toList, json := "{ validate: \"})\" }".toList,
    desc := "The name é".toList, sep2 := [' '] }
example : WF exW = true := by decide +kernel
example : render exW = "// @Query(name, { validate: \"})\" }) The name é".toList := by decide +kernel
/-- outside `WF` (ambiguous description, finding C16-F1) the round trip is FALSE: the greedy group
    swallows the description -/
example : (parseLine "// @Query(name, {a: 1}) see {b}) foo".toList).map RawAttr.core
    = some ("Query".toList, "name".toList, "{a: 1}) see {b}".toList, "foo".toList) := by decide +kernel

end Gleece.Annot
