/-
  C13 — sorting by a lexicographic comparator makes the order a function of the SET of elements.
  The statements are about ANY sorted permutation, so they hold whichever algorithm `slices.SortFunc` runs.
-/
import Gleece.Model.Sort
import Gleece.Generated.Comparators
namespace Gleece.Sort

section
variable {α K : Type} (kle : K → K → Bool)

theorem lexLe_cons_iff (k : α → K) (ks : List (α → K)) (a b : α) :
    lexLe kle (k :: ks) a b = true ↔
      kle (k a) (k b) = true ∧ (kle (k b) (k a) = true → lexLe kle ks a b = true) := by
  rw [lexLe]
  cases kle (k a) (k b) <;> cases kle (k b) (k a) <;> simp

theorem lexLe_total (total : ∀ x y : K, kle x y || kle y x) (keys : List (α → K)) (a b : α) :
    lexLe kle keys a b || lexLe kle keys b a := by
  induction keys with
  | nil => rfl
  | cons k ks ih =>
    rw [Bool.or_eq_true, lexLe_cons_iff, lexLe_cons_iff]
    have ht := Bool.or_eq_true _ _ ▸ total (k a) (k b)
    by_cases hab : kle (k a) (k b) = true <;> by_cases hba : kle (k b) (k a) = true
    · exact (Bool.or_eq_true _ _ ▸ ih).imp (fun h => ⟨hab, fun _ => h⟩) fun h => ⟨hba, fun _ => h⟩
    · exact Or.inl ⟨hab, fun h => absurd h hba⟩
    · exact Or.inr ⟨hba, fun h => absurd h hab⟩
    · exact absurd ht (not_or.2 ⟨hab, hba⟩)

theorem lexLe_trans (trans : ∀ x y z : K, kle x y → kle y z → kle x z) (keys : List (α → K)) (a b c : α)
    (hab : lexLe kle keys a b = true) (hbc : lexLe kle keys b c = true) : lexLe kle keys a c = true := by
  induction keys with
  | nil => rfl
  | cons k ks ih =>
    rw [lexLe_cons_iff] at hab hbc ⊢
    exact ⟨trans _ _ _ hab.1 hbc.1, fun hca =>
      ih (hab.2 (trans _ _ _ hbc.1 hca)) (hbc.2 (trans _ _ _ hca hab.1))⟩

/-- two elements that sort no later than each other agree on every key the comparator looks at -/
theorem lexLe_both_keys_eq (antisymm : ∀ x y : K, kle x y → kle y x → x = y) (keys : List (α → K)) (a b : α)
    (hab : lexLe kle keys a b = true) (hba : lexLe kle keys b a = true) : ∀ k ∈ keys, k a = k b := by
  induction keys with
  | nil => exact fun _ h => nomatch h
  | cons k ks ih =>
    rw [lexLe_cons_iff] at hab hba
    intro k' hk'
    rcases List.mem_cons.1 hk' with rfl | hk'
    · exact antisymm _ _ hab.1 hba.1
    · exact ih (hab.2 hba.1) (hba.2 hab.1) k' hk'

/-- **Any two sorted arrangements of the same elements are the same list**, provided the keys the comparator looks at
    tell the elements apart.  `s` and `s'` stand for what two runs of ANY correct sorting algorithm return on two
    enumerations `l`, `l'` of the same elements. -/
theorem sorted_canonical (antisymm : ∀ x y : K, kle x y → kle y x → x = y) (keys : List (α → K))
    (l l' s s' : List α) (hl : l.Perm l') (hs : s.Perm l) (hs' : s'.Perm l')
    (hsorted : s.Pairwise (fun a b => lexLe kle keys a b = true)) (hsorted' : s'.Pairwise (fun a b => lexLe kle keys a b = true))
    (hinj : ∀ a ∈ l, ∀ b ∈ l, (∀ k ∈ keys, k a = k b) → a = b) : s = s' :=
  (hs.trans (hl.trans hs'.symm)).eq_of_pairwise (le := fun a b => lexLe kle keys a b = true) (fun a b ha hb hab hba =>
    hinj a (hs.subset ha) b (hl.symm.subset (hs'.subset hb)) (lexLe_both_keys_eq kle antisymm keys a b hab hba))
    hsorted hsorted'

/-- the same for `List.mergeSort` (a concrete correct algorithm): its result is a function of the set of elements -/
theorem mergeSort_canonical (total : ∀ x y : K, kle x y || kle y x) (trans : ∀ x y z : K, kle x y → kle y z → kle x z)
    (antisymm : ∀ x y : K, kle x y → kle y x → x = y) (keys : List (α → K)) (l l' : List α) (hl : l.Perm l')
    (hinj : ∀ a ∈ l, ∀ b ∈ l, (∀ k ∈ keys, k a = k b) → a = b) :
    l.mergeSort (lexLe kle keys) = l'.mergeSort (lexLe kle keys) :=
  have sorted := List.pairwise_mergeSort (fun a b c => lexLe_trans kle trans keys a b c)
    (fun a b => lexLe_total kle total keys a b)
  sorted_canonical kle antisymm keys l l' _ _ hl (List.mergeSort_perm l _) (List.mergeSort_perm l' _)
    (sorted l) (sorted l') hinj
end

/-! ### the call sites (regenerated from the source on every run) -/

/-- every `slices.SortFunc` / `SortStableFunc` comparator of the non-test sources is a lexicographic comparison of
    keys - each `Compare(x, y)` hands over THE SAME key of the two DIFFERENT elements - except the hand-written
    three-level comparator of `paths.inPlaceSortConflicts` (relational operators; a stable sort of diagnostics) -/
theorem comparators_well_shaped :
    (Gleece.Generated.comparators.all fun row =>
      wellShaped row || row.1 == "core/validators/paths/paths.go:inPlaceSortConflicts#0") = true := by decide +kernel

/-- the order in which controllers are validated and reduced (and import serials handed out) is fixed by the package
    path and then the name: a key that tells any two controllers of a Go program apart -/
theorem controllers_sorted_by_package_and_name :
    (Gleece.Generated.comparators.find? (·.1 == "core/pipeline/pipeline.go:getControllers#0")).map keyPaths
      = some ["Struct.PkgPath", "Struct.Name"] := by decide +kernel

/-- structs and enums of the models section are ordered by their bare NAME only: two declarations with one name in two
    packages are not told apart by it (their relative order is whatever the graph hands out: finding C07-F4) -/
theorem models_sorted_by_name_only :
    ((Gleece.Generated.comparators.filter (fun r => r.1.startsWith "core/pipeline/pipeline.go:getModels#")).map keyPaths)
      = [["Name"], ["Name"]] := by decide +kernel

/-- non-vacuity of `sorted_canonical`'s hypotheses: numbers under `≤` with the identity key -/
example : [3, 1, 2].mergeSort (lexLe (fun x y : Nat => decide (x ≤ y)) [fun n => n]) =
          [2, 3, 1].mergeSort (lexLe (fun x y : Nat => decide (x ≤ y)) [fun n => n]) :=
  mergeSort_canonical _ (by intro x y; simp; omega) (by intro x y z; simp; omega) (by intro x y; simp; omega) _ _ _
    (by decide) (by intro a _ b _ h; exact h (fun n => n) (by simp))

end Gleece.Sort
