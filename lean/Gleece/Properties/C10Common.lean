/-
  C10 - the annotation-level validator accepts EXACTLY the lists that satisfy the documented rules: annotations that
  satisfy them are never reported with an ERROR by `commonValidate` (warnings - wrong context, stray or mistyped
  properties, a repeated single-use annotation, an unlisted status code - do not reject a project), and an error-free
  verdict establishes every rule.  `well_formed_route_accepted` (`C10Exact.lean`) puts this together with the other
  passes of the receiver validator.
-/
import Gleece.Lemmas.Common
namespace Gleece.Validate

/-- the rules, stated over the list as a whole (no running counters) -/
structure AnnotsWellFormed (as : List Annot) : Prop where
  /-- every annotation is one of the table -/
  known : ∀ a ∈ as, (lookupDef a.name).isSome = true
  /-- an annotation the table wants a value for has one -/
  valued : ∀ a ∈ as, ∀ d, lookupDef a.name = some d → d.requiresValue = true → a.value.isEmpty = false
  /-- no annotation that another one excludes is present (the table is symmetric: @Body / @FormField) -/
  exclusive : ∀ a ∈ as, ∀ d, lookupDef a.name = some d → ∀ x ∈ d.mutuallyExclusive, ∀ b ∈ as, b.name ≠ x
  /-- an annotation with a unique value does not repeat the value of an EARLIER annotation (of any kind) -/
  unique : ∀ pre a post, as = pre ++ a :: post → requiresUnique a = true → a.value.isEmpty = false → ∀ b ∈ pre, b.value ≠ a.value
  /-- @Method names a verb the routers support -/
  verb : ∀ a ∈ as, a.name = "Method" → Gleece.Generated.routeSupportedHttpVerbs.contains a.value = true
  /-- @Response / @ErrorResponse carry a 32-bit decimal number (an unlisted code is a warning only) -/
  status : ∀ a ∈ as, a.name = "Response" ∨ a.name = "ErrorResponse" → ∃ n, Gleece.Text.parseUint a.value = some n ∧ n < 4294967296

/-- **well-formed annotations are never reported with an error** -/
theorem commonValidate_complete (source : String) (as : List Annot) (wf : AnnotsWellFormed as) :
    hasError (commonValidate source as) = false := by
  rw [commonValidate_eq]
  refine (commonValidate_go_iff source as [] []).2 fun p a q hs => ?_
  have ha : a ∈ as := by rw [hs]; exact List.mem_append_right p (List.mem_cons_self ..)
  refine ⟨wf.known a ha, wf.valued a ha, fun d hd x hx hn => hn.elim (Nat.lt_irrefl 0) fun ⟨b, hb, hbx⟩ => ?_,
    fun hr hne hv => hv.elim List.not_mem_nil fun ⟨b, hb, hbv⟩ => wf.unique p a q hs hr hne b hb hbv, wf.verb a ha, fun _ => wf.status a ha⟩
  exact wf.exclusive a ha d hd x hx b (by rw [hs, List.append_cons]; exact List.mem_append_left q hb) hbx

/-! ### a decidable form (what the driver evaluates on every generated route, and the non-vacuity witness) -/

theorem uniqueB_iff (as : List Annot) (seen : List String) :
    uniqueB as seen = true ↔
      ∀ p a q, as = p ++ a :: q → requiresUnique a = true → a.value.isEmpty = false → ¬ seenValue seen p a.value := by
  induction as generalizing seen with
  | nil => exact ⟨fun _ => forall_split_nil, fun _ => rfl⟩
  | cons x rest ih =>
    rw [uniqueB, Bool.and_eq_true, ih, forall_split_cons, seenValue_nil]
    simp only [seenValue_step]
    refine and_congr_left' ?_
    cases requiresUnique x <;> cases x.value.isEmpty <;> simp

theorem annotsWellFormedB_sound (as : List Annot) (h : annotsWellFormedB as = true) : AnnotsWellFormed as := by
  simp only [annotsWellFormedB, Bool.and_eq_true, List.all_eq_true] at h
  obtain ⟨⟨⟨h1, h2⟩, h3⟩, h4⟩ := h
  have row : ∀ a ∈ as, ∀ d, lookupDef a.name = some d →
      (d.requiresValue = true → a.value.isEmpty = false) ∧ ∀ x ∈ d.mutuallyExclusive, ∀ b ∈ as, b.name ≠ x := by
    intro a ha d hd
    have := h1 a ha
    simp only [hd, Bool.and_eq_true, Bool.or_eq_true, Bool.not_eq_true', List.all_eq_true, bne_iff_ne] at this
    exact ⟨fun hrv => this.1.resolve_left (by rw [hrv]; nofun), this.2⟩
  refine ⟨fun a ha => Option.isSome_iff_ne_none.2 fun hn => ?_, fun a ha d hd => (row a ha d hd).1, fun a ha d hd => (row a ha d hd).2,
    fun p a q hs hr hne b hb hbv => (uniqueB_iff as []).1 h2 p a q hs hr hne (.inr ⟨b, hb, hbv⟩), fun a ha hm => ?_, fun a ha hs => ?_⟩
  · have := h1 a ha
    rw [hn] at this
    cases this
  · simpa only [hm, bne_self_eq_false, Bool.false_or] using h3 a ha
  · have := h4 a ha
    simp only [Bool.or_eq_true, Bool.not_eq_true', Bool.or_eq_false_iff, decide_eq_false_iff_not] at this
    have := this.resolve_left fun h => hs.elim h.1 h.2
    split at this
    · next n hn => exact ⟨n, hn, of_decide_eq_true this⟩
    · cases this

/-- non-vacuity: `@Method(GET) @Route(/a/{id}) @Path(id) @Response(200)` satisfies the rules … -/
example : AnnotsWellFormed [⟨"Method", "GET", [], ""⟩, ⟨"Route", "/a/{id}", [], ""⟩, ⟨"Path", "id", [], ""⟩, ⟨"Response", "200", [], ""⟩] :=
  annotsWellFormedB_sound _ (by decide +kernel)
/-- … and a second `@Path(id)` or a `@Body` next to a `@FormField` does not -/
example : annotsWellFormedB [⟨"Path", "id", [], ""⟩, ⟨"Query", "id", [], ""⟩] = false ∧
    annotsWellFormedB [⟨"Body", "b", [], ""⟩, ⟨"FormField", "f", [], ""⟩] = false := by decide +kernel

/-! ### … and exactly those: an error-free verdict establishes every rule (the converse of `commonValidate_complete`) -/

/-- the exclusion lists of the annotation table are symmetric (regenerated table: @Body / @FormField) -/
theorem exclusion_symmetric :
    ∀ r ∈ Gleece.Generated.annotTable, ∀ x ∈ r.2.2.2.2.2.2.1,
      ∃ r' ∈ Gleece.Generated.annotTable, r'.1 = x ∧ r.1 ∈ r'.2.2.2.2.2.2.1 := by decide +kernel

/-- symmetry, through `lookupDef` (the first row of a name is the one that counts) -/
theorem exclusion_symmetric_lookup :
    ∀ r ∈ Gleece.Generated.annotTable, ∀ x ∈ r.2.2.2.2.2.2.1,
      ((lookupDef x).map fun d => d.mutuallyExclusive.contains r.1) = some true := by decide +kernel

theorem split_of_mem_mem {α} {a b : α} {l : List α} (ha : a ∈ l) (hb : b ∈ l) :
    (∃ p q, l = p ++ a :: q ∧ b ∈ p ++ [a]) ∨ ∃ p q, l = p ++ b :: q ∧ a ∈ p ++ [b] := by
  obtain ⟨p, q, rfl⟩ := List.append_of_mem hb
  by_cases h : a ∈ p ++ [b]
  · exact .inr ⟨p, q, rfl, h⟩
  · have haq : a ∈ q := by
      rw [List.append_cons] at ha
      exact (List.mem_append.1 ha).resolve_left h
    obtain ⟨p2, q2, rfl⟩ := List.append_of_mem haq
    exact .inl ⟨p ++ b :: p2, q2, by rw [List.append_assoc]; rfl, List.mem_append_left _ (List.mem_append_right _ (List.mem_cons_self ..))⟩

/-- **an error-free verdict establishes every rule**: with `commonValidate_complete`, the annotation-level validator
    accepts EXACTLY the lists that satisfy `AnnotsWellFormed` -/
theorem commonValidate_sound (source : String) (as : List Annot) (h : hasError (commonValidate source as) = false) :
    AnnotsWellFormed as := by
  obtain ⟨known, valued, excl, unique, verb, status⟩ :=
    commonValidate_go_sound source [] as [] [] (fun _ h => nomatch h) (fun _ h => nomatch h) (commonValidate_eq .. ▸ h)
  refine ⟨known, valued, fun a ha d hd x hx b hb hbx => ?_, unique, verb, status⟩
  rcases split_of_mem_mem ha hb with ⟨p, q, hs, hm⟩ | ⟨p, q, hs, hm⟩
  · exact excl p a q hs d hd x hx b hm hbx
  · -- a is at or before b: by the symmetry of the table b excludes a's name
    obtain ⟨r, hr, hrn, hre, -⟩ := lookupDef_row hd
    obtain ⟨d', hdb, hc⟩ := Option.map_eq_some_iff.1 (exclusion_symmetric_lookup r hr x (hre ▸ hx))
    exact excl p b q hs d' (hbx ▸ hdb) a.name (List.contains_iff_mem.1 (hrn ▸ hc)) a hm rfl

/-- **The annotation-level validator reports no error EXACTLY for the lists that satisfy the rules.** -/
theorem commonValidate_accepts_iff (source : String) (as : List Annot) :
    hasError (commonValidate source as) = false ↔ AnnotsWellFormed as :=
  ⟨commonValidate_sound source as, commonValidate_complete source as⟩

/-- … hence the decidable form and the validator agree on every list (not only on the routes the driver evaluates) -/
theorem annotsWellFormedB_of_no_error (source : String) (as : List Annot) (h : annotsWellFormedB as = true) :
    hasError (commonValidate source as) = false :=
  commonValidate_complete source as (annotsWellFormedB_sound as h)

/-- non-vacuity of the converse: a list the validator rejects for each rule -/
example : hasError (commonValidate "route" [⟨"Body", "b", [], ""⟩, ⟨"FormField", "f", [], ""⟩]) = true ∧
    hasError (commonValidate "route" [⟨"FormField", "f", [], ""⟩, ⟨"Body", "b", [], ""⟩]) = true ∧
    hasError (commonValidate "route" [⟨"Method", "OPTIONS", [], ""⟩]) = true ∧
    hasError (commonValidate "route" [⟨"Response", "2_00", [], ""⟩]) = true ∧
    hasError (commonValidate "route" [⟨"Query", "", [], ""⟩]) = true ∧
    hasError (commonValidate "route" [⟨"Nope", "x", [], ""⟩]) = true := by decide +kernel

end Gleece.Validate
