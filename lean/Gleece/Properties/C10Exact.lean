/-
  C10 - the receiver validator as a whole, in both directions.  It accepts exactly when none of its passes reports an
  error (`validateReceiver_accepts_iff`).  Hence a route that satisfies the rules is never rejected (`receiver_accepts`,
  `well_formed_route_accepted`: the converses of the single passes, put together), and an accepted route satisfies them
  (`accepted_route_is_well_formed_partial`, through `commonValidate_sound` and `accepted_is_wellLinked_partial`).
-/
import Gleece.Properties.C10Complete
import Gleece.Properties.C10Common
namespace Gleece.Validate

/-- **the parameter pass accepts every route whose parameters suit their locations** -/
theorem validateParams_complete (env : TypeEnv) (m : Method)
    (hnoerr : ∀ p ∈ m.params, isContextType p.type = false → ∀ e, passedInOf m.annots p.name ≠ some (.error e))
    (htype : ∀ p ∈ m.params, isContextType p.type = false → ∀ loc, passedInOf m.annots p.name = some (.ok loc) → typeOk env p loc = true)
    (hcombo : comboOk (locsOf m m.params) = true) :
    validateParams env m = some [] :=
  (validateParams_eq_nil_iff env m).2 ⟨hnoerr, htype, hcombo⟩

/-- **the return-type pass accepts `error` and `(T, error)`** -/
theorem validateReturns_complete (emb : List String) (m : Method)
    (h : (∃ e, m.results = [e] ∧ isErrorType e = true) ∨ (∃ t e, m.results = [t, e] ∧ isErrorType e = true)) :
    validateReturns emb m = [] := by
  unfold validateReturns
  rcases h with ⟨e, hr, he⟩ | ⟨t, e, hr, he⟩ <;> simp [hr, he]

/-- **the security pass accepts exactly the routes that are secured** - by an annotation of their own, of the controller,
    or by the default security - **or need not be** -/
theorem validateSecurity_eq_nil_iff {enforce hasDefault : Bool} {ctrlAnnots : List Annot} {m : Method} :
    validateSecurity enforce hasDefault ctrlAnnots m = [] ↔
      enforce = false ∨ securityOf m.annots > 0 ∨ securityOf ctrlAnnots > 0 ∨ hasDefault = true := by
  unfold validateSecurity
  cases enforce <;> simp only [Bool.not_true, Bool.not_false, Bool.false_eq_true, if_false, if_true, ite_eq_left_iff,
    reduceCtorEq, imp_false, Decidable.not_not, Bool.or_eq_true, decide_eq_true_eq, false_or, true_or, or_assoc]

/-- **the receiver validator accepts exactly when no pass of it reports an error**; for the link validator, whose
    diagnostics are all errors, that is when it reports nothing -/
theorem validateReceiver_accepts_iff (env : TypeEnv) (emb : List String) (enforce hasDefault : Bool) (ctrlAnnots : List Annot)
    (m : Method) :
    (∃ ds, validateReceiver env emb enforce hasDefault ctrlAnnots m = some ds ∧ hasError ds = false) ↔
      (enforce && (securityUnreadable ctrlAnnots || securityUnreadable m.annots)) = false ∧
      hasError (commonValidate "route" m.annots) = false ∧ isExportedName m.name = true ∧
      (∃ pd, validateParams env m = some pd ∧ hasError pd = false) ∧
      hasError (validateReturns emb m) = false ∧ hasError (validateSecurity enforce hasDefault ctrlAnnots m) = false ∧
      linkValidate (((ctrlAnnots.find? (·.name = "Route")).map (·.value)).getD "") m = [] := by
  have hlink {r} : hasError (linkValidate r m) = false ↔ linkValidate r m = [] :=
    ⟨linkValidate_nil_of_noerr r m, fun h => h ▸ rfl⟩
  unfold validateReceiver
  cases (enforce && (securityUnreadable ctrlAnnots || securityUnreadable m.annots))
  · cases validateParams env m with
    | none => simp
    | some pd =>
      simp only [Bool.false_eq_true, if_false, Option.map_some, Option.some.injEq, exists_eq_left', hasError_append,
        Bool.or_eq_false_iff, and_assoc, true_and, hasError_ite, hasError_nil, hasError_err, hlink,
        implies_true, Bool.true_eq_false, imp_false, Decidable.not_not]
  · simp

/-- **a route satisfying the rules is never rejected** (the whole receiver validator): no hard error and no
    error-severity diagnostic, provided the annotations themselves are well-formed (`commonValidate` reports no error -
    unknown annotation, missing value, unsupported verb …), the method is exported, its parameters suit their
    locations, it returns `error` or `(T, error)`, it is secured when the enforce flag demands it, and it is well-linked -/
theorem receiver_accepts (env : TypeEnv) (emb : List String) (enforce hasDefault : Bool) (ctrlAnnots : List Annot) (m : Method)
    (hread : (enforce && (securityUnreadable ctrlAnnots || securityUnreadable m.annots)) = false)
    (hcommon : hasError (commonValidate "route" m.annots) = false)
    (hexp : isExportedName m.name = true)
    (hnoerr : ∀ p ∈ m.params, isContextType p.type = false → ∀ e, passedInOf m.annots p.name ≠ some (.error e))
    (htype : ∀ p ∈ m.params, isContextType p.type = false → ∀ loc, passedInOf m.annots p.name = some (.ok loc) → typeOk env p loc = true)
    (hcombo : comboOk (locsOf m m.params) = true)
    (hret : (∃ e, m.results = [e] ∧ isErrorType e = true) ∨ (∃ t e, m.results = [t, e] ∧ isErrorType e = true))
    (hsec : enforce = false ∨ securityOf m.annots > 0 ∨ securityOf ctrlAnnots > 0 ∨ hasDefault = true)
    (hlink : WellLinked (((ctrlAnnots.find? (·.name = "Route")).map (·.value)).getD "") m) :
    ∃ ds, validateReceiver env emb enforce hasDefault ctrlAnnots m = some ds ∧ hasError ds = false :=
  (validateReceiver_accepts_iff ..).2 ⟨hread, hcommon, hexp, ⟨[], validateParams_complete env m hnoerr htype hcombo, rfl⟩,
    validateReturns_complete emb m hret ▸ rfl, validateSecurity_eq_nil_iff.2 hsec ▸ rfl, wellLinked_accepted _ m hlink⟩

/-- **A route that satisfies the documented rules is accepted** - no hypothesis mentions a validator of the model. -/
theorem well_formed_route_accepted (env : TypeEnv) (emb : List String) (enforce hasDefault : Bool) (ctrlAnnots : List Annot) (m : Method)
    (hread : (enforce && (securityUnreadable ctrlAnnots || securityUnreadable m.annots)) = false)
    (wf : AnnotsWellFormed m.annots)
    (hexp : isExportedName m.name = true)
    (hnoerr : ∀ p ∈ m.params, isContextType p.type = false → ∀ e, passedInOf m.annots p.name ≠ some (.error e))
    (htype : ∀ p ∈ m.params, isContextType p.type = false → ∀ loc, passedInOf m.annots p.name = some (.ok loc) → typeOk env p loc = true)
    (hcombo : comboOk (locsOf m m.params) = true)
    (hret : (∃ e, m.results = [e] ∧ isErrorType e = true) ∨ (∃ t e, m.results = [t, e] ∧ isErrorType e = true))
    (hsec : enforce = false ∨ securityOf m.annots > 0 ∨ securityOf ctrlAnnots > 0 ∨ hasDefault = true)
    (hlink : WellLinked (((ctrlAnnots.find? (·.name = "Route")).map (·.value)).getD "") m) :
    ∃ ds, validateReceiver env emb enforce hasDefault ctrlAnnots m = some ds ∧ hasError ds = false :=
  receiver_accepts env emb enforce hasDefault ctrlAnnots m hread (commonValidate_complete "route" m.annots wf) hexp hnoerr htype hcombo hret hsec hlink

/-- **What an accepted route is** (the sound direction at the level of the whole receiver validator): no hard error and
    no error-severity diagnostic means the annotations satisfy `AnnotsWellFormed`, the method is exported, and - for
    distinctly named parameters, no empty alias, and up to C10-F2 - the route is `WellLinked` (of the three, only "no empty
    alias" is needed: see `accepted_is_wellLinked_partial`). -/
theorem accepted_route_is_well_formed_partial (env : TypeEnv) (emb : List String) (enforce hasDefault : Bool)
    (ctrlAnnots : List Annot) (m : Method) (ds : List Diag)
    (hv : validateReceiver env emb enforce hasDefault ctrlAnnots m = some ds) (hok : hasError ds = false)
    (hnd : (m.params.map (·.name)).eraseDups.length = m.params.length)
    (hAlias : ∀ a ∈ m.annots.filter (·.name = "Path"), aliasOf a ≠ .ok "")
    (hF2 : ∀ a ∈ m.annots.filter (·.name = "Path"), (∀ al, aliasOf a = .ok al → al = "") →
        a.value ∈ extractUrlParams ((((ctrlAnnots.find? (·.name = "Route")).map (·.value)).getD "") ++
          ((m.annots.filter (·.name = "Route")).head?.map (·.value)).getD "")) :
    AnnotsWellFormed m.annots ∧ isExportedName m.name = true ∧
    WellLinked (((ctrlAnnots.find? (·.name = "Route")).map (·.value)).getD "") m :=
  let ⟨_, hc, hexp, _, _, _, hlink⟩ := (validateReceiver_accepts_iff ..).1 ⟨ds, hv, hok⟩
  ⟨commonValidate_sound "route" m.annots hc, hexp, accepted_is_wellLinked_partial _ m hlink hnd hAlias hF2⟩

/-- non-vacuity: the route of the `wellLinkedB` example IS accepted by the whole receiver validator (prefix parameter,
    aliased and un-aliased @Path, a query parameter, the request context; enforce flag on, secured by the controller) -/
example :
    let m : Method := { name := "Get", annots := [⟨"Method", "GET", [], ""⟩, ⟨"Route", "/{id}/x/{k}", [], ""⟩,
                          ⟨"Path", "tenant", [], ""⟩, ⟨"Path", "id", [], ""⟩, ⟨"Path", "key", [("name", .str, "k")], ""⟩,
                          ⟨"Query", "q", [], ""⟩],
                        params := [⟨"ctx", "context.Context"⟩, ⟨"tenant", "string"⟩, ⟨"id", "int"⟩, ⟨"key", "string"⟩, ⟨"q", "*string"⟩],
                        results := ["error"] }
    let ctrl : List Annot := [⟨"Tag", "T", [], ""⟩, ⟨"Route", "/t/{tenant}", [], ""⟩, ⟨"Security", "sec0", [], ""⟩]
    (validateReceiver {} [] true false ctrl m).map hasError = some false := by decide +kernel

end Gleece.Validate
