/-
  C09 — Every accepted project yields a routes file that is compilable Go.

  What a theorem can carry here (for every serial number and every name, no bound):
   * every import alias `Param<serial><name>` / `Response<serial><Type>` is a valid identifier whenever the
     name is one (`alias_ident`);
   * two aliases are equal only if serial and name are equal (`alias_inj`): with one serial per type
     (C13 / C19: `Session.getId` is a function of the key) the aliases of one file never clash;
   * on the regenerated call skeleton of `routes.GenerateRoutes`: the rendered text goes through
     `OptimizeImportsAndFormat` before it is written, the directory is created before the write, every other
     failure returns before the write (`written_only_after_formatting`), the formatter's own failure included
     (`format_failure_refuses`; it used to be swallowed: finding C09-F2, fixed).
  That the file type-checks against the engine, the controllers and the authorization package is decided by
  COMPILING it: the `rig` stream renders the five routers for generated projects and builds them together with the
  project and an authorization package per engine; a compile error is the violation, its text the replay.
-/
import Gleece.Model.Alias
import Gleece.Model.Order
import Gleece.Lemmas.Iterate
namespace Gleece.Alias

theorem isDigit_isIdChar (c : Char) (h : c.isDigit = true) : isIdChar c = true := by
  simp [isIdChar, Char.isAlphanum, h]

theorem isIdStart_isIdChar (c : Char) (h : isIdStart c = true) : isIdChar c = true := by
  simp only [isIdStart, Bool.or_eq_true] at h
  simp only [isIdChar, Char.isAlphanum, Bool.or_eq_true]
  exact h.elim (fun h => Or.inl (Or.inl h)) Or.inr

theorem toDigits_all_isDigit (n : Nat) : (Nat.toDigits 10 n).all Char.isDigit = true :=
  List.all_eq_true.2 fun _ hc => Nat.isDigit_of_mem_toDigits (by decide) (by decide) hc

/-- **every alias is a valid identifier** -/
theorem alias_ident (pre : List Char) (serial : Nat) (name : List Char)
    (hpre : isIdent pre = true) (hname : name.all isIdChar = true) : isIdent (alias pre serial name) = true := by
  cases pre with
  | nil => cases hpre
  | cons c cs =>
    simp only [isIdent, Bool.and_eq_true] at hpre
    simp only [alias, List.cons_append, isIdent, Bool.and_eq_true, List.all_append]
    exact ⟨hpre.1, ⟨hpre.2, List.all_eq_true.2 fun d hd =>
      isDigit_isIdChar d (List.all_eq_true.1 (toDigits_all_isDigit serial) d hd)⟩, hname⟩

theorem toDigits_inj (a b : Nat) (h : Nat.toDigits 10 a = Nat.toDigits 10 b) : a = b := by
  rw [← @Nat.ofDigitChars_ten_toDigits a, h, Nat.ofDigitChars_ten_toDigits]

/-- **aliases never clash**: equal aliases come from equal serials and equal names (names are identifiers: they
    do not start with a digit) -/
theorem alias_inj (pre : List Char) (s₁ s₂ : Nat) (n₁ n₂ : List Char)
    (h₁ : ∀ c, n₁.head? = some c → c.isDigit = false) (h₂ : ∀ c, n₂.head? = some c → c.isDigit = false)
    (h : alias pre s₁ n₁ = alias pre s₂ n₂) : s₁ = s₂ ∧ n₁ = n₂ := by
  unfold alias at h
  rw [List.append_assoc, List.append_assoc] at h
  -- the serial is the digit run in front of the name, which does not start with a digit
  have t₁ := takeWhile_dropWhile_append (toDigits_all_isDigit s₁) h₁
  have t₂ := takeWhile_dropWhile_append (toDigits_all_isDigit s₂) h₂
  rw [List.append_cancel_left h] at t₁
  exact ⟨toDigits_inj _ _ (t₁.1.symm.trans t₂.1), t₁.2.symm.trans t₂.2⟩

/-- letters and `_` lie above the digits -/
theorem isIdStart_not_digit (c : Char) (h : isIdStart c = true) : c.isDigit = false := by
  refine Bool.eq_false_iff.2 fun hd => ?_
  simp only [isIdStart, Char.isAlpha, Char.isUpper, Char.isLower, Char.isDigit, Bool.or_eq_true, Bool.and_eq_true,
    decide_eq_true_eq, beq_iff_eq, UInt32.le_iff_toNat_le] at h hd
  rcases h with (h | h) | rfl
  · exact absurd (Nat.le_trans h.1 hd.2) (by decide)
  · exact absurd (Nat.le_trans h.1 hd.2) (by decide)
  · exact absurd hd.2 (by decide)

/-- an identifier does not start with a digit -/
theorem ident_head_not_digit (n : List Char) (h : isIdent n = true) : ∀ c, n.head? = some c → c.isDigit = false := by
  cases n with
  | nil => cases h
  | cons x xs =>
    rintro c ⟨⟩
    simp only [isIdent, Bool.and_eq_true] at h
    exact isIdStart_not_digit x h.1

/-- the statement over identifiers -/
theorem alias_unique (pre : List Char) (s₁ s₂ : Nat) (n₁ n₂ : List Char)
    (h₁ : isIdent n₁ = true) (h₂ : isIdent n₂ = true) (h : alias pre s₁ n₁ = alias pre s₂ n₂) : s₁ = s₂ ∧ n₁ = n₂ :=
  alias_inj pre s₁ s₂ n₁ n₂ (ident_head_not_digit n₁ h₁) (ident_head_not_digit n₂ h₂) h

example : String.ofList (alias "Param".toList 12 "body".toList) = "Param12body" := by decide +kernel
example : isIdent (alias "Response".toList 6 "Item".toList) = true := by decide +kernel
/-- what went wrong before fix 3f4a446: a composite spelling is not made of identifier characters -/
example : isIdent (alias "Response".toList 6 "map[string]int".toList) = false := by decide +kernel

end Gleece.Alias

namespace Gleece.Order

/-- **the file is written only after formatting, directory creation and every fallible step** -/
theorem written_only_after_formatting :
    (let evs := eventsOf "generator/routes/generator.go:GenerateRoutes"
     before evs "raymond.Render" "compilation.OptimizeImportsAndFormat" = true ∧
     before evs "compilation.OptimizeImportsAndFormat" "os.WriteFile" = true ∧
     before evs "os.MkdirAll" "os.WriteFile" = true ∧
     guarded evs "raymond.Render" = true ∧ guarded evs "GetTemplateContext" = true ∧
     guarded evs "os.MkdirAll" = true ∧ guarded evs "os.WriteFile" = true) := by
  decide +kernel

/-- **a project gleece cannot render compilable code for is refused**: a failure of the formatter (the text
    does not parse) returns before anything is written (this was finding C09-F2, fixed in /repo) -/
theorem format_failure_refuses :
    (let evs := eventsOf "generator/routes/generator.go:GenerateRoutes"
     guarded evs "compilation.OptimizeImportsAndFormat" = true ∧
     failureSwallowed evs "compilation.OptimizeImportsAndFormat" = false) := by
  decide +kernel

end Gleece.Order
