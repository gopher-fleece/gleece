/-
  C17 — The symbol graph's views stay mutually consistent under any sequence of edits.

  Model: `Gleece/Model/Graph.lean` (the Go state `nodes / edges / deps / revDeps / nextEdgeSeq` and
  every public mutation), tied to `graphs/symboldg/graph.go` by the history-based correspondence
  (mode `graph`: all queries dumped after every operation).  Theorems quantify over every reachable
  state: every finite sequence of operations, any keys, versions and edge kinds.
-/
import Gleece.Lemmas.GraphRemove
import Gleece.Lemmas.GraphEvict
namespace Gleece.Graph

/-! ### the invariant holds in every reachable state -/

theorem inv_guardedAdd {g g' : G} {k id : Key} {kind : String} (inv : Inv g)
    (h : guardedAdd g k kind = some (g', id)) : Inv g' := by
  revert h
  fun_cases guardedAdd g k kind with
  | case1 n hn hv => intro h; cases h; exact inv
  | case2 n hn hv =>
    intro h
    obtain ⟨g1, hr, h⟩ := Option.map_eq_some_iff.1 h
    cases h
    exact inv_rawAddNode (removeNode_shrinks _ _ _ _ inv hr).1.inv _
  | case3 hn => intro h; cases h; exact inv_rawAddNode inv _

theorem inv_addBuiltin {g : G} (inv : Inv g) (k : Key) (kind : String) : Inv (addBuiltin g k kind) := by
  unfold addBuiltin; split
  · exact inv
  · exact inv_rawAddNode inv _

/-- **One step.** Every public mutation preserves the consistency of the three indices. -/
theorem inv_step {g g' : G} (inv : Inv g) (op : Op) (h : step g op = some g') : Inv g' := by
  cases op with
  | addNode k kind =>
    obtain ⟨⟨g1, id⟩, hg, rfl⟩ := Option.map_eq_some_iff.1 h
    exact inv_guardedAdd inv hg
  | addStruct k fields =>
    obtain ⟨⟨g1, id⟩, hg, rfl⟩ := Option.map_eq_some_iff.1 h
    exact foldl_induct (fun _ g => Inv g) (fun f _ g inv => inv_addEdge inv id f "fld") _ _ (inv_guardedAdd inv hg)
  | addEnum k prim values =>
    obtain ⟨⟨g1, id⟩, hg, h⟩ := Option.bind_eq_some_iff.1 h
    refine foldl_bind_induct (fun _ g => Inv g) (fun v _ g g' inv hv => ?_) _ _ _
      (inv_addBuiltin (inv_guardedAdd inv hg) _ _) h
    obtain ⟨⟨g2, vid⟩, hg2, rfl⟩ := Option.map_eq_some_iff.1 hv
    exact inv_addEdge (inv_addEdge (inv_guardedAdd inv hg2) _ _ _) _ _ _
  | addPrim k => cases h; exact inv_addBuiltin inv _ _
  | addEdge f t kind => cases h; exact inv_addEdge inv _ _ _
  | removeEdge f t kind => cases h; exact inv_removeEdge inv _ _ _
  | removeNode k => exact (removeNode_shrinks _ _ _ _ inv h).1.inv

/-- run a history from a state -/
def run (g : G) : List Op → Option G
  | [] => some g
  | op :: ops => (step g op).bind (run · ops)

/-- **Every reachable state** (induction over the operation history). -/
theorem inv_run (ops : List Op) (g g' : G) (inv : Inv g) (h : run g ops = some g') : Inv g' := by
  induction ops generalizing g with
  | nil => cases h; exact inv
  | cons op ops ih =>
    obtain ⟨g1, hs, h⟩ := Option.bind_eq_some_iff.1 h
    exact ih g1 (inv_step inv op hs) h

theorem inv_reachable (ops : List Op) (g' : G) (h : run {} ops = some g') : Inv g' := inv_run ops {} g' inv_init h

/-! ### queries agree with the plain set of edges -/

/-- `GetEdges(b)` lists exactly the edges whose source or target is `b`. -/
theorem mem_getEdges {g : G} (inv : Inv g) (b : Nat) (e : Edge) :
    e ∈ getEdges g b ↔ e ∈ g.edges ∧ (e.src.base = b ∨ e.dst.base = b) := by
  unfold getEdges
  simp only [List.mem_append, List.mem_filter, decide_eq_true_eq, Bool.and_eq_true, Bool.not_eq_true',
    List.contains_eq_mem, decide_eq_false_iff_not, inv.mem_recordedParents]
  constructor
  · rintro (⟨h1, h2⟩ | ⟨⟨h1, h2, _⟩, _⟩)
    · exact ⟨h1, .inl h2⟩
    · exact ⟨h1, .inr h2⟩
  · rintro ⟨h1, h2⟩
    by_cases hs : e.src.base = b
    · exact .inl ⟨h1, hs⟩
    · have hd := h2.resolve_left hs
      exact .inr ⟨⟨h1, hd, e, h1, rfl, hd⟩, fun h => hs h.2⟩

/-- **An edge is listed among its source's edges iff it is listed among its target's edges.** -/
theorem outgoing_iff_incoming {g : G} (inv : Inv g) (e : Edge) :
    e ∈ getEdges g e.src.base ↔ e ∈ getEdges g e.dst.base := by
  rw [mem_getEdges inv, mem_getEdges inv]; simp

theorem mem_sortByOrd (l : List Edge) (e : Edge) : e ∈ sortByOrd l ↔ e ∈ l :=
  (List.mergeSort_perm _ _).mem_iff

/-- `Children(b)` are exactly the existing targets of `b`'s edges. -/
theorem mem_children (g : G) (b c : Nat) : c ∈ children g b ↔ edgeBetween g b c ∧ g.hasNode c = true := by
  unfold children edgeBetween
  simp only [List.mem_map, mem_sortByOrd, List.mem_filter, Bool.and_eq_true, decide_eq_true_eq]
  constructor
  · rintro ⟨e, ⟨he, h1, h2⟩, rfl⟩; exact ⟨⟨e, he, h1, rfl⟩, h2⟩
  · rintro ⟨⟨e, he, h1, rfl⟩, h2⟩; exact ⟨e, ⟨he, h1, h2⟩, rfl⟩

theorem hasNode_eq_isSome (g : G) (b : Nat) : g.hasNode b = (g.node? b).isSome := by
  rw [Bool.eq_iff_iff, G.node?, List.find?_isSome, G.hasNode, List.any_eq_true]

theorem node?_base {g : G} {b : Nat} {n : Node} (h : g.node? b = some n) : n.key.base = b := by
  unfold G.node? at h; simpa using List.find?_some h

/-- `Parents(b)` are exactly the existing sources of the edges into `b`. -/
theorem mem_parents {g : G} (inv : Inv g) (b p : Nat) :
    p ∈ parents g b ↔ g.hasNode b = true ∧ edgeBetween g p b ∧ g.hasNode p = true := by
  unfold parents
  rw [hasNode_eq_isSome g b]
  cases hn : g.node? b with
  | none => simp
  | some n =>
    simp only [List.mem_map, mem_sortByOrd, List.mem_flatMap, List.mem_filter, Bool.and_eq_true, decide_eq_true_eq,
      node?_base hn, Option.isSome_some, true_and]
    constructor
    · rintro ⟨e, ⟨pk, _, he, ⟨h1, h2⟩, h3⟩, rfl⟩
      exact ⟨⟨e, he, rfl, h2⟩, h1 ▸ h3⟩
    · rintro ⟨⟨e, he, rfl, h1⟩, h3⟩
      obtain ⟨d, hd, hd2⟩ := List.mem_map.1 (inv.mem_recordedParents.2 ⟨e, he, rfl, h1⟩)
      exact ⟨e, ⟨d.2, ⟨d, by simpa using hd, rfl⟩, he, ⟨hd2.symm, h1⟩, hd2 ▸ h3⟩, rfl⟩

/-- **Child and parent queries are dual** in every reachable state. -/
theorem child_parent_dual {g : G} (inv : Inv g) (a b : Nat) (ha : g.hasNode a = true) (hb : g.hasNode b = true) :
    b ∈ children g a ↔ a ∈ parents g b := by
  rw [mem_children, mem_parents inv]
  exact ⟨fun h => ⟨hb, h.1, ha⟩, fun h => ⟨h.2.1, hb⟩⟩

/-! ### re-inserting an existing node or edge changes nothing -/

/-- inserting an edge that all three indices already hold changes nothing -/
theorem addEdge_of_present {g : G} {f t : Key} {kind : String} (hd : (f.base, t) ∈ g.deps) (hr : (t.base, f) ∈ g.revDeps)
    (he : ∃ e ∈ g.edges, e.src.base = f.base ∧ e.kind = kind ∧ e.dst.base = t.base) : addEdge g f t kind = g := by
  have hany : g.edges.any (edgeMatches f.base kind t.base) = true := by
    simpa only [List.any_eq_true, edgeMatches_iff] using he
  simp only [addEdge, insertSet, if_pos hd, if_pos hr, hany, if_true]

theorem addEdge_idem (g : G) (f t : Key) (kind : String) :
    addEdge (addEdge g f t kind) f t kind = addEdge g f t kind := by
  obtain ⟨-, hd, hr, hcase⟩ := addEdge_cases (rfl : addEdge g f t kind = _)
  refine addEdge_of_present (hd ▸ (mem_insertSet _ _ _).2 (.inr rfl)) (hr ▸ (mem_insertSet _ _ _).2 (.inr rfl)) ?_
  -- the slot is taken after the first insertion, by the old descriptor or by the new one
  rcases hcase with ⟨⟨e, he, hm⟩, h, -⟩ | ⟨-, h, -⟩
  · exact ⟨e, h ▸ he, hm⟩
  · exact ⟨_, h ▸ List.mem_append_right _ (List.mem_singleton_self _), rfl, rfl, rfl⟩

theorem addEdge_idem_edges (g : G) (f t : Key) (kind : String) :
    (addEdge (addEdge g f t kind) f t kind).edges = (addEdge g f t kind).edges :=
  congrArg G.edges (addEdge_idem g f t kind)

theorem guardedAdd_same_version (g : G) (k : Key) (kind : String) (n : Node)
    (h : g.node? k.base = some n) (hv : n.key.ver = k.ver) : guardedAdd g k kind = some (g, n.key) := by
  unfold guardedAdd; rw [h]; simp [hv]

/-! ### the abstraction map commutes with edge insertion / removal -/

/-- an edge as the plain specification sees it: base ids and kind -/
def absEdge (e : Edge) : AEdge := ⟨e.src.base, e.kind, e.dst.base⟩
/-- the graph as the plain specification sees it.  Only edge insertion and removal are related to `A.step` here (the
    theorems below); that node insertion and the `removeNode` cascade agree with `A.step` is left to the correspondence
    stream (mode `graph`) -/
def abs (g : G) : A := { nodes := g.nodes.map (fun n => (n.key.base, n.key.ver, n.kind)), edges := g.edges.map absEdge }

theorem abs_addEdge_eq (g : G) (f t : Key) (kind : String) :
    abs (addEdge g f t kind) = (abs g).addEdge f.base kind t.base := by
  have hiff : (g.edges.map absEdge).contains ⟨f.base, kind, t.base⟩ = true ↔
      ∃ e ∈ g.edges, e.src.base = f.base ∧ e.kind = kind ∧ e.dst.base = t.base := by
    simp only [List.contains_iff_mem, List.mem_map, absEdge, AEdge.mk.injEq]
  unfold A.addEdge abs
  obtain ⟨hn, -, -, ⟨hex, h, -⟩ | ⟨hfree, h, -⟩⟩ := addEdge_cases (rfl : addEdge g f t kind = _)
  · rw [hn, h, if_pos (hiff.2 hex)]
  · rw [hn, h, if_neg fun hc => let ⟨e, he, hm⟩ := hiff.1 hc; hfree e he hm, List.map_append]; rfl

theorem abs_addEdge (g : G) (f t : Key) (kind : String) :
    (abs (addEdge g f t kind)).edges = ((abs g).addEdge f.base kind t.base).edges :=
  congrArg A.edges (abs_addEdge_eq g f t kind)

theorem abs_removeEdge_eq (g : G) (f t : Key) (kind : Option String) :
    abs (removeEdge g f t kind) = (abs g).removeEdge f.base t.base kind := by
  unfold abs A.removeEdge
  simp only [removeEdge_edges, removeEdge_nodes, List.filter_map]
  congr 2

theorem abs_removeEdge (g : G) (f t : Key) (kind : Option String) :
    (abs (removeEdge g f t kind)).edges = ((abs g).removeEdge f.base t.base kind).edges :=
  congrArg A.edges (abs_removeEdge_eq g f t kind)

/-! ### removing a node removes it and every edge touching it -/

theorem removeNode_removes {fuel : Nat} {g g' : G} {key : Key} (inv : Inv g)
    (h : removeNode fuel g key = some g') (hex : g.hasNode key.base = true) :
    (∀ e ∈ g'.edges, e.src.base ≠ key.base ∧ e.dst.base ≠ key.base) ∧
    (∀ e ∈ g'.edges, e ∈ g.edges) ∧ (∀ n ∈ g'.nodes, n ∈ g.nodes) :=
  let r := removeNode_shrinks fuel g key g' inv h
  ⟨r.2 hex, r.1.sub, r.1.nodes⟩

/-! ### "exactly those dependants left without any remaining dependency": the specification's eviction set is
    the least fixed point of the eviction rule (`Lemmas/GraphEvict.lean`) — for EVERY abstract graph, with no
    assumption about duplicates or dangling edges; `|nodes| + 1` rounds always suffice -/

/-- **The eviction set of the plain model is the least set that contains the removed node and is closed under
    "all my dependencies lead into the set or nowhere, and at least one leads into it"**; and every member other
    than the removed node is there because the rule demands it. -/
theorem evictSet_is_least_fixed_point (a : A) (n : Nat) :
    n ∈ evictSet a n ∧ Stable a (evictSet a n) ∧
    (∀ s : List Nat, Stable a s → n ∈ s → ∀ x ∈ evictSet a n, x ∈ s) ∧
    (∀ x ∈ evictSet a n, x = n ∨ (x ∈ a.nodes.map (·.1) ∧ evictable a (evictSet a n) x = true)) :=
  ⟨mem_evictSet_self a n, evictSet_stable a n, evictSet_least a n, evictSet_members a n⟩

/-- a node that still has a dependency outside the set (on an existing node) is NOT evicted -/
theorem kept_if_dependency_remains (a : A) (n x : Nat) (hx : x ≠ n) (e : AEdge) (he : e ∈ a.edges) (hs : e.src = x)
    (hout : e.dst ∉ evictSet a n) (hex : a.has e.dst = true) : x ∉ evictSet a n := by
  intro hmem
  rcases evictSet_members a n x hmem with h | ⟨_, hev⟩
  · exact hx h
  · exact ((evictable_iff.1 hev).2 e he hs).elim hout fun h => Bool.noConfusion (hex.symm.trans h)

/-! ### non-vacuity -/

/-- the cascade on a concrete graph: 1 → 0, 2 → 1, 3 → {1, 4}; removing 0 takes 1 and 2 with it, 3 stays (it
    still depends on 4) -/
example : evictSet { nodes := [(0, 1, "S"), (1, 1, "S"), (2, 1, "S"), (3, 1, "S"), (4, 1, "S")],
                     edges := [⟨1, "f", 0⟩, ⟨2, "f", 1⟩, ⟨3, "f", 1⟩, ⟨3, "f", 4⟩] } 0 = [0, 1, 2] := by decide +kernel

private def exHist : List Op :=
  [.addNode ⟨0, 1⟩ "Alias", .addNode ⟨1, 1⟩ "Alias", .addEdge ⟨0, 1⟩ ⟨1, 1⟩ "ty", .addEdge ⟨0, 1⟩ ⟨1, 1⟩ "ref",
   .removeEdge ⟨0, 1⟩ ⟨1, 1⟩ (some "ty")]
/-- the witness of the repaired defect C17-F1: after removing one of two kinds, the surviving edge is
    still listed on both sides -/
example : ((run {} exHist).map fun g => ((getEdges g 0).length, (getEdges g 1).length, parents g 1)) = some (1, 1, [0]) := by
  decide +kernel

end Gleece.Graph
