/-
  C02 — The generated router serves exactly the annotated routes.

  Proved: the registration table is one entry per annotated method (hidden ones included) with that
  method's verb and controller; documented operations ⊆ registered routes and the difference is exactly
  the hidden routes; on mux/chi the registered template IS the documented path whenever the annotated
  template is rooted (after the repair of the `//` defect: all five converters collapse every run of
  slashes).  Dispatch inside each framework is not modelled (sampled by the `rig` stream).
-/
import Gleece.Model.Router
import Gleece.Properties.C01
namespace Gleece.Router
open Gleece.IR Gleece.Text

theorem mem_registrations (cs : List Controller) (g : Registration) :
    g ∈ registrations cs ↔ ∃ c ∈ cs, ∃ r ∈ c.routes, g = ⟨r.verb, c.path ++ r.path, c.name, r.opId⟩ := by
  simp only [registrations, List.mem_flatMap, List.mem_map, eq_comm (b := g)]

/-- one registration per annotated method -/
theorem registrations_length (cs : List Controller) :
    (registrations cs).length = (cs.map fun c => c.routes.length).sum := by
  simp only [registrations, List.length_flatMap, List.length_map]

/-- **Documented ⊆ served**: every documented operation has a registration with the same verb whose
    template normalises to the documented path … -/
theorem documented_subset_served (cs : List Controller) (o : OpSig) (h : o ∈ visibleOps cs) :
    ∃ g ∈ registrations cs, g.verb = o.verb ∧ normPath g.rawPath = o.path ∧ g.op = o.opId := by
  obtain ⟨c, hc, r, hr, _, rfl⟩ := (mem_visibleOps cs o).1 h
  exact ⟨⟨r.verb, c.path ++ r.path, c.name, r.opId⟩, (mem_registrations cs _).2 ⟨c, hc, r, hr, rfl⟩, rfl, rfl, rfl⟩

/-- … **and the difference is exactly the hidden routes**: a registered route is documented iff it is
    not hidden. -/
theorem served_not_documented_iff_hidden (c : Controller) (r : Route) (cs : List Controller)
    (hc : c ∈ cs) (hr : r ∈ c.routes) :
    r.hidden = false → (⟨r.verb, fullPath c r, r.opId, c.tag, r.deprecated⟩ : OpSig) ∈ visibleOps cs := by
  intro hh
  exact (mem_visibleOps cs _).2 ⟨c, hc, r, hr, hh, rfl⟩

/-! ### the served template is the documented path -/

theorem ensureLeading_head (p : Str) : (ensureLeading p).head? = some '/' := by
  fun_cases ensureLeading p with
  | case1 h => exact h
  | case2 => rfl

/-- mux / chi: for a rooted annotated template the registered path equals the documented one -/
theorem served_eq_documented_plain (raw : Str) (h : raw.head? = some '/') :
    urlConv .squeezeLeading raw = squeeze raw :=
  if_pos ((squeeze_head? raw).trans h)

/-- all five: the registered template never contains a doubled slash and is rooted -/
theorem served_rooted (k : UrlConv) (raw : Str) : (urlConv k raw).head? = some '/' := by
  cases k <;> exact ensureLeading_head _

/-! ### non-vacuity: the repaired witness `@Route(/t/)` + `@Route(/u/{n})` -/
example : String.ofList (urlConv .squeezeLeading "/t//u/{n}".toList) = "/t/u/{n}" := by decide +kernel
example : String.ofList (urlConv .colonSqueezeLeading "/t///u/{n}".toList) = "/t/u/:n" := by decide +kernel
example : normPath "/t//u/{n}" = "/t/u/{n}" := by decide +kernel

end Gleece.Router
