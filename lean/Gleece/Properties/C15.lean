/-
  C15 — Route-conflict detection flags exactly the overlapping same-verb routes.

  Property theorems only (helper lemmas: `Gleece/Lemmas/Paths*.lean`).  The model is
  `Gleece/Model/Paths.lean` (`findConflicts`), tied to `core/validators/paths/paths.go` by the
  differential correspondence check (mode `paths`).  All theorems quantify over every finite list of
  entries with pairwise distinct identities — any length, any verbs, any path text, duplicates included.
-/
import Gleece.Lemmas.PathsInv
namespace Gleece.Paths
open Gleece.Text

/-- identities handed out by `mkEntries` (positions in the input list) are pairwise distinct, so the
    hypotheses of the theorems below are met by every input the driver builds -/
theorem mkEntries_ids_nodup (l : List (String × String)) : ((mkEntries l).map (·.id)).Nodup := by
  have : (mkEntries l).map (·.id) = l.zipIdx.map Prod.snd := by
    rw [mkEntries, List.map_map]; rfl
  rw [this, List.zipIdx_eq_zip_range', List.map_snd_zip (by simp)]
  exact List.nodup_range'

theorem mem_findConflicts {es : List Entry} {c : Conflict} :
    c ∈ findConflicts es ↔ c ∈ (es.foldl step {}).out :=
  (List.mergeSort_perm _ _).mem_iff

theorem inv_findConflicts (es : List Entry) (hnd : (es.map (·.id)).Nodup) : Inv es (es.foldl step {}) := by
  simpa using inv_foldl es [] {} inv_init (by simpa using hnd)

/-- **Soundness.** Every reported conflict names two distinct entries of the list that have the same
    verb and whose normalised templates can match a common concrete path. -/
theorem findConflicts_sound (es : List Entry) (hnd : (es.map (·.id)).Nodup) :
    ∀ c ∈ findConflicts es,
      c.a ∈ es ∧ c.b ∈ es ∧ c.a.id ≠ c.b.id ∧ c.a.verb = c.b.verb ∧
      patternsConflict c.a.segs c.b.segs = true :=
  fun c hc => (inv_findConflicts es hnd).sound c (mem_findConflicts.1 hc)

/-- an entry is flagged when some reported conflict names it -/
def flagged (es : List Entry) (e : Entry) : Prop := ∃ c ∈ findConflicts es, c.a = e ∨ c.b = e

/-- exactly the entries of the list that overlap another same-verb entry of the list are flagged -/
theorem flagged_iff_overlaps (es : List Entry) (hnd : (es.map (·.id)).Nodup) (e : Entry) :
    flagged es e ↔ e ∈ es ∧ ∃ e' ∈ es, overlaps e e' = true := by
  have inv := inv_findConflicts es hnd
  constructor
  · rintro ⟨c, hc, hi⟩
    obtain ⟨ha, hb, h⟩ := inv.sound c (mem_findConflicts.1 hc)
    have hov := (overlaps_iff _ _).2 h
    rcases hi with rfl | rfl
    · exact ⟨ha, c.b, hb, hov⟩
    · exact ⟨hb, c.a, ha, overlaps_comm _ _ ▸ hov⟩
  · rintro ⟨he, e', he', hov⟩
    obtain ⟨c, hc, hi⟩ := inv.complete e he e' he' hov
    obtain ⟨ha, hb, _⟩ := inv.sound c hc
    exact ⟨c, mem_findConflicts.2 hc, hi.imp (inj_of_nodup_map hnd ha he) (inj_of_nodup_map hnd hb he)⟩

/-- **Completeness.** Every entry that overlaps some other same-verb entry is named in at least one
    reported conflict (so each offending method receives a warning). -/
theorem findConflicts_complete (es : List Entry) (hnd : (es.map (·.id)).Nodup) :
    ∀ e ∈ es, (∃ e' ∈ es, overlaps e e' = true) → flagged es e :=
  fun e he h => (flagged_iff_overlaps es hnd e).2 ⟨he, h⟩

/-- **Exactness**: an entry of the list is flagged iff it overlaps another same-verb entry. -/
theorem flagged_iff (es : List Entry) (hnd : (es.map (·.id)).Nodup) (e : Entry) (he : e ∈ es) :
    flagged es e ↔ ∃ e' ∈ es, overlaps e e' = true := by
  rw [flagged_iff_overlaps es hnd, and_iff_right he]

/-- **Order-independence.** The set of entries flagged does not depend on the order in which the
    routes were discovered: for every permutation of the list the same entries are flagged. -/
theorem flagged_perm (es es' : List Entry) (hp : es.Perm es') (hnd : (es.map (·.id)).Nodup) (e : Entry) :
    flagged es e ↔ flagged es' e := by
  rw [flagged_iff_overlaps es hnd, flagged_iff_overlaps es' ((hp.map _).nodup_iff.1 hnd)]
  simp only [hp.mem_iff]

/-- The decidable checker the driver runs on the implementation's answer decides the soundness clause:
    every named pair consists of two overlapping entries of the list. -/
theorem specSound_iff (es : List Entry) (named : List (Nat × Nat)) :
    specSound es named = true ↔
      ∀ p ∈ named, ∃ a b, es.find? (·.id = p.1) = some a ∧ es.find? (·.id = p.2) = some b ∧ overlaps a b = true := by
  simp only [specSound, List.all_eq_true]
  refine forall_congr' fun p => imp_congr_right fun _ => ?_
  cases es.find? (·.id = p.1) <;> cases es.find? (·.id = p.2) <;>
    simp only [Option.some.injEq, reduceCtorEq, false_and, and_false, exists_false, exists_and_left, exists_eq_left',
      Bool.false_eq_true]

/-- … and the completeness clause. -/
theorem specComplete_iff (es : List Entry) (named : List (Nat × Nat)) :
    specComplete es named = true ↔
      ∀ e ∈ es, (∃ e' ∈ es, overlaps e e' = true) → ∃ p ∈ named, p.1 = e.id ∨ p.2 = e.id := by
  simp only [specComplete, List.all_eq_true, Bool.or_eq_true, Bool.not_eq_true', ← Bool.not_eq_true,
    List.any_eq_true, decide_eq_true_eq]
  exact forall_congr' fun e => imp_congr_right fun _ => Decidable.imp_iff_not_or.symm

/-! ### `normalizePath`: the `for strings.Contains(p, "//")` loop terminates (it is a total Lean
    function by the decreasing-length argument in the model) and leaves no doubled slash. -/

theorem hasDD_collapse (p : Str) : hasDD (collapse p) = false := by
  fun_induction collapse p with
  | case1 p h ih => exact ih
  | case2 p h => simpa using h

/-! ### non-vacuity: concrete lists meeting the hypotheses, with a non-trivial verdict -/

private def ex1 : List Entry := mkEntries [("GET", "/a/{x}"), ("GET", "/a/b"), ("POST", "/a/b")]
example : (ex1.map (·.id)).Nodup := mkEntries_ids_nodup _
example : (findConflicts ex1).map (fun c => (c.a.id, c.b.id)) = [(1, 0)] := by decide +kernel
example : ex1.any (fun e => ex1.any (overlaps e)) = true := by decide +kernel
/-- the witness of the repaired defect (C15-F1): every one of the five entries is now named -/
example : let es := mkEntries [("GET", "/a"), ("GET", "/a"), ("GET", "/a"), ("POST", "/a"), ("POST", "/a")]
    specComplete es (((es.foldl step {}).out).map fun c => (c.a.id, c.b.id)) = true := by decide +kernel

end Gleece.Paths
