/-
  C05 — Handlers bind each parameter from its declared source and enforce requiredness.

  Proved on the model (`Gleece/Model/Router.lean`): the conversion table accepts exactly the values of
  the declared integer type (so every representable value converts and every other value is refused),
  arguments are passed in signature order with the declared pointer-ness, a context parameter receives
  the request context, and every non-pointer / path parameter carries a `required` validator.
  Ties: static — the binding steps extracted from every rendered routes file (accessor → location by
  the per-engine accessor table, wire name, strconv function and bit size, validator tag, call
  arguments) are compared with `paramSteps`/`callArgs`; dynamic — the `rig` stream.
  Not modelled: decimal parsing itself (strconv is trusted to parse what FormatInt prints), floats,
  custom validator tags, the frameworks' own request accessors (sampled dynamically).
-/
import Gleece.Lemmas.Router
import Gleece.Properties.C06
namespace Gleece.Router
open Gleece.IR

/-- the values of a Go integer type -/
def inRange (t : String) (v : Int) : Prop :=
  if isSignedInt t then -(2 : Int) ^ (intWidth t - 1) ≤ v ∧ v < (2 : Int) ^ (intWidth t - 1)
  else 0 ≤ v ∧ v < (2 : Int) ^ intWidth t

/-- what strconv accepts for a (mathematically parsed) value: `ParseInt` / `Atoi` range-check against the
    signed width, `ParseUint` against the unsigned width -/
def strconvAccepts (fn : ConvFn) (bits : Option Nat) (v : Int) : Prop :=
  match fn with
  | .atoi | .parseInt => -(2 : Int) ^ (effectiveBits fn bits - 1) ≤ v ∧ v < (2 : Int) ^ (effectiveBits fn bits - 1)
  | .parseUint => 0 ≤ v ∧ v < (2 : Int) ^ effectiveBits fn bits
  | _ => True

/-- **Every row of the conversion table uses the width of its declared type** (a wrong bit size — the
    repaired `uint`/32 defect — makes this false). -/
theorem conv_bits_match : ∀ row ∈ convTable, (isSignedInt row.1 || isUnsignedInt row.1) = true →
    effectiveBits row.2.1 row.2.2 = intWidth row.1 := by decide +kernel

/-- signed types are parsed by a signed parser and unsigned ones by an unsigned parser -/
theorem conv_signedness : ∀ row ∈ convTable,
    (isSignedInt row.1 = true → row.2.1 = .atoi ∨ row.2.1 = .parseInt) ∧
    (isUnsignedInt row.1 = true → row.2.1 = .parseUint) := by decide +kernel

/-- **Without loss, and nothing else**: for every integer row, strconv accepts a value iff it is a value
    of the declared type — all boundary integers included. -/
theorem int_conversion_exact (t : String) (fn : ConvFn) (bits : Option Nat) (h : (t, fn, bits) ∈ convTable)
    (hint : (isSignedInt t || isUnsignedInt t) = true) (v : Int) :
    strconvAccepts fn bits v ↔ inRange t v := by
  have hb : effectiveBits fn bits = intWidth t := conv_bits_match (t, fn, bits) h hint
  have hs := conv_signedness (t, fn, bits) h
  fun_cases inRange t v with
  | case1 hsg => rw [← hb]; rcases hs.1 hsg with rfl | rfl <;> exact Iff.rfl
  | case2 hsg =>
    cases hs.2 ((Bool.or_eq_true_iff.1 hint).resolve_left hsg)
    rw [← hb]
    exact Iff.rfl

/-- every primitive the reducer lets through as a non-body parameter has a row (strings are passed
    as they are) -/
theorem conv_table_covers :
    ∀ t ∈ ["int", "int8", "int16", "int32", "int64", "uint", "uint8", "uint16", "uint32", "uint64", "bool", "float32", "float64"],
      (convTable.map (·.1)).contains t = true := by decide +kernel

/-- **Argument order**: the controller method receives one argument per parameter, in signature order;
    a context parameter receives the request context; a by-address parameter the pointer, any other the
    pointed-to value. -/
theorem callArgs_order (r : Route) :
    (callArgs r).length = r.params.length ∧
    ∀ i (h : i < r.params.length),
      (callArgs r)[i]? = some (if r.params[i].isContext then ("ctx", false)
                               else (r.params[i].name ++ "RawPtr", !r.params[i].type.isByAddress)) := by
  refine ⟨List.length_map .., fun i h => ?_⟩
  rw [callArgs, List.getElem?_map, List.getElem?_eq_getElem h]; rfl

/-- the call is the last step before the reply and uses exactly `callArgs` -/
theorem handler_calls_once (c : Controller) (r : Route) :
    (handlerOf c r).filter (fun s => match s with | .call _ _ _ => true | _ => false)
      = [.call r.opId (callArgs r) r.hasReturnValue] := by
  have hp : (r.params.flatMap paramSteps).filter (fun s => match s with | .call _ _ _ => true | _ => false) = [] :=
    List.filter_eq_nil_iff.2 fun s hs => by cases s <;> first | exact Bool.false_ne_true | cases isParam_of_mem_paramSteps hs
  simp only [handlerOf_eq, List.filter_cons, List.filter_append, hp, Bool.false_eq_true, if_false]
  rfl

inductive BindOutcome | pass | reject422
deriving DecidableEq, Repr

/-- what happens to one bound parameter, given what the framework handed over.  The last line is the one fact
    assumed of go-playground/validator: a nil pointer fails `required`. -/
def bindOutcome (present converts validatorOk : Bool) (tagRequired : Bool) : BindOutcome :=
  if present then (if converts && validatorOk then .pass else .reject422)
  else if tagRequired then .reject422 else .pass

/-- **Requiredness is enforced**: a request that omits a non-pointer or path parameter is answered 422 —
    for every validator string the user wrote (`required_rule` from C06 gives the tag). -/
theorem required_422 (v : Text.Str) (isPtr isPath : Bool) (h : isPtr = false ∨ isPath = true) (c vo : Bool) :
    bindOutcome false c vo (isFieldRequired (appendRequired v isPtr isPath)) = .reject422 := by
  rw [required_rule]
  rcases h with h | h <;> simp [bindOutcome, h]

/-- a value that is present but does not convert is answered 422, whatever validator and tag say -/
theorem ill_typed_422 (vo req : Bool) : bindOutcome true false vo req = .reject422 := rfl

/-! ### non-vacuity -/
example : inRange "uint" 4294967296 := by unfold inRange; decide +kernel
example : strconvAccepts .parseUint (some 0) 4294967296 := by simp [strconvAccepts, effectiveBits]
example : ¬ strconvAccepts .parseUint (some 32) 4294967296 := by simp [strconvAccepts, effectiveBits]
example : ¬ inRange "int8" 128 ∧ inRange "int8" (-128) := by unfold inRange; decide +kernel

end Gleece.Router
