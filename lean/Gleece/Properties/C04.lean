/-
  C04 — Documented security equals enforced security; the enforce flag leaves no open route.
  (The IR-level half of C03's `effective_def` lives here too.)

  Model: `docSecurity` (both emitters' `generateOperationSecurity`), `enforcedSecurity` (the
  `SecurityCheckList` literal the router templates pass to `authorize()`), `effectiveSecurity`
  (`ControllerMeta.Reduce` + `GetRouteSecurityWithInheritance` + `GetDefaultSecurity`).
-/
import Gleece.Model.IR
namespace Gleece.IR

/-- the route as the reducer builds it from the three annotation levels -/
def reducedRoute (r : Route) (method controller : Security) (dflt : Option SecComp) : Route :=
  { r with security := effectiveSecurity method controller dflt }

/-- **Effective security**: the method's own alternatives if it has any, otherwise the controller's,
    otherwise the configured default; empty only if all three are absent. -/
theorem effective_def (m c : Security) (d : Option SecComp) :
    effectiveSecurity m c d = (if m ≠ [] then m else if c ≠ [] then c else d.toList.map fun x => [x]) := by
  cases m <;> cases c <;> cases d <;> rfl

theorem effective_empty_iff (m c : Security) (d : Option SecComp) :
    effectiveSecurity m c d = [] ↔ m = [] ∧ c = [] ∧ d = none := by
  cases m <;> cases c <;> cases d <;> simp [effectiveSecurity]

/-- the emitters' fallback to the configured default is idle unless a route without security meets a default -/
theorem doc_eq_enforced_of_imp (cfg : Cfg) (r : Route) (h : r.security = [] → cfg.defaultSecurity = none) :
    docSecurity cfg r = enforcedSecurity r := by
  unfold docSecurity enforcedSecurity
  cases hs : r.security with
  | nil => rw [h hs]; rfl
  | cons => rfl

/-- **Documented = enforced** for every route the reducer can produce: same schemes, same scopes, same
    order — whatever the three levels contain (present, absent, multiple, repeated scheme). -/
theorem doc_eq_enforced (cfg : Cfg) (r : Route) (m c : Security) :
    docSecurity cfg (reducedRoute r m c cfg.defaultSecurity) = enforcedSecurity (reducedRoute r m c cfg.defaultSecurity) :=
  doc_eq_enforced_of_imp cfg _ fun h => ((effective_empty_iff m c _).1 h).2.2

/-- the general form, for arbitrary IR: the documented list differs from the enforced one only when the
    route carries no security while a default is configured (unreachable from the reducer) -/
theorem doc_eq_enforced_of (cfg : Cfg) (r : Route) (h : r.security ≠ [] ∨ cfg.defaultSecurity = none) :
    docSecurity cfg r = enforcedSecurity r :=
  doc_eq_enforced_of_imp cfg r fun hs => h.resolve_left (absurd hs)

theorem mapM_guard {α β : Type} (p : α → Bool) (f : α → β) (l : List α) :
    l.mapM (fun a => if p a then none else some (f a)) = if l.any p then none else some (l.map f) := by
  induction l with
  | nil => rfl
  | cons x xs ih =>
    rw [List.mapM_cons, ih, List.any_cons, List.map_cons]
    cases p x <;> cases xs.any p <;> rfl

/-- the security part of both emitters: one entry per documented route, or failure at the first
    route that names an undeclared scheme -/
def emitSecurity (cfg : Cfg) (cs : List Controller) : Option (List (String × Security)) :=
  (cs.flatMap fun c => c.routes.filter fun r => !r.hidden).mapM fun r =>
    if unknownScheme cfg (docSecurity cfg r) then none else some (r.opId, docSecurity cfg r)

theorem emitSecurity_eq (cfg : Cfg) (cs : List Controller) :
    emitSecurity cfg cs = if securityError cfg cs then none
      else some ((cs.flatMap fun c => c.routes.filter fun r => !r.hidden).map fun r => (r.opId, docSecurity cfg r)) := by
  rw [emitSecurity, mapM_guard (fun r => unknownScheme cfg (docSecurity cfg r)), securityError]
  simp only [List.any_flatMap, List.any_filter]

/-- **A project that names an undeclared scheme yields no spec** (and only such a project fails here). -/
theorem unknown_scheme_no_spec (cfg : Cfg) (cs : List Controller) :
    emitSecurity cfg cs = none ↔ securityError cfg cs = true := by
  rw [emitSecurity_eq]; cases securityError cfg cs <;> simp

theorem unknownScheme_eq_false {cfg : Cfg} {sec : Security} :
    unknownScheme cfg sec = false ↔ ∀ l ∈ sec, ∀ c ∈ l, c.name ∈ cfg.schemes := by
  simp only [unknownScheme, List.any_eq_false, Bool.not_eq_true, Bool.not_eq_false', List.contains_iff_mem]

/-- when a spec is emitted, every scheme named in any operation's `security` is declared -/
theorem schemes_declared (cfg : Cfg) (cs : List Controller) (out : List (String × Security))
    (h : emitSecurity cfg cs = some out) :
    ∀ e ∈ out, ∀ l ∈ e.2, ∀ c ∈ l, c.name ∈ cfg.schemes := by
  rw [emitSecurity, mapM_guard fun r => unknownScheme cfg (docSecurity cfg r)] at h
  obtain ⟨hany, h⟩ := Option.ite_none_left_eq_some.1 h
  cases h
  intro e he
  obtain ⟨r, hr, rfl⟩ := List.mem_map.1 he
  exact unknownScheme_eq_false.1 (Bool.eq_false_iff.2 (List.any_eq_false.1 (Bool.eq_false_iff.2 hany) r hr))

/-- `validateSecurity` with `enforceSecurityOnAllRoutes`: a project is accepted only if every route has
    a non-empty effective security -/
def enforceAccepts (cfg : Cfg) (cs : List Controller) : Bool :=
  !cfg.enforce || cs.all fun c => c.routes.all fun r => !r.security.isEmpty

theorem enforce_airtight (cfg : Cfg) (cs : List Controller) (he : cfg.enforce = true)
    (h : enforceAccepts cfg cs = true) : ∀ c ∈ cs, ∀ r ∈ c.routes, r.security ≠ [] := by
  intro c hc r hr
  simp only [enforceAccepts, he, Bool.not_true, Bool.false_or, List.all_eq_true, Bool.not_eq_true',
    List.isEmpty_eq_false_iff] at h
  exact h c hc r hr

/-! ### non-vacuity -/
example : effectiveSecurity [] [[⟨"s", ["r"]⟩]] (some ⟨"d", []⟩) = [[⟨"s", ["r"]⟩]] := by decide +kernel
example : effectiveSecurity [] [] (some ⟨"d", []⟩) = [[⟨"d", []⟩]] := by decide +kernel
example : securityError { schemes := ["a"] } [{ name := "C", path := "/", routes := [{ opId := "o", verb := "GET", path := "/", security := [[⟨"ghost", []⟩]] }] }] = true := by decide +kernel

end Gleece.IR
