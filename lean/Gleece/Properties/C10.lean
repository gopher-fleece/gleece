/-
  C10 — Validation accepts exactly the well-linked routes, else blocks all output.

  Model: `Gleece/Model/Validate.lean` — the common validator interpreting the annotation table
  regenerated from `configuration.go`, the receiver validator, the link validator.  Tie: the `proj`
  stream prints generated projects (well-formed ones and every single / double perturbation of
  annotations and signatures) as real Go source, runs the real `pipeline.Validate()` and compares the
  multiset of (controller, receiver, code, severity) with the model's; the property's own definition
  `wellLinked` (`Driver/Proj.lean`) is evaluated against the implementation's verdict for every route.

  PROVED (soundness direction, clause by clause, for every method, any annotations / parameters /
  results): a receiver whose link / return / parameter checks report nothing returns `error` or
  `(T, error)`, every @Path / binding annotation references a parameter, every non-context parameter is
  referenced, every `{name}` of the full route (controller prefix ++ method route) has a @Path binding, every @Path
  alias names a `{name}` of the full route, no @Path alias is malformed, and there is never a second body or a body next to
  form fields (in full: `validateParams_eq_nil_iff`, `Lemmas/Params.lean`).
  NOT implied by the code (finding C10-F2, hence a hypothesis of any stronger statement): a @Path
  without alias whose name is not in the route is never reported.  All of these are read off ONE
  characterisation, `linkValidate_eq_nil_iff` (`Lemmas/Validate.lean`); the converse direction
  (well-linked ⇒ accepted) is `C10Complete.lean`.  Blocking (`run_blocks_on_error_diagnostics`,
  `commands_write_after_success`) is decided on the regenerated call skeletons.
-/
import Gleece.Lemmas.Validate
import Gleece.Lemmas.Params
import Gleece.Model.Order
namespace Gleece.Validate
open Gleece.IR

/-- **Returns**: accepted ⇒ `error` or `(T, error)` with an error last (no user type embeds error here) -/
theorem returns_sound (m : Method) (h : validateReturns [] m = []) :
    (∃ e, m.results = [e] ∧ isErrorType e = true) ∨ (∃ t e, m.results = [t, e] ∧ isErrorType e = true) := by
  unfold validateReturns at h
  split at h
  · cases h
  · exact Or.inl ⟨_, ‹_›, by simpa using h⟩
  · exact Or.inr ⟨_, _, ‹_›, by simpa using h⟩
  · cases h

/-- what the first three passes of the link validator establish (the fourth is `params_referenced`) -/
theorem linkValidate_nil_parts (ctrlRoute : String) (m : Method) (h : linkValidate ctrlRoute m = []) :
    let route := ((m.annots.filter (·.name = "Route")).head?.map (·.value)).getD ""
    let urlParams := extractUrlParams (ctrlRoute ++ route)
    let pathAttrs := m.annots.filter (·.name = "Path")
    let funcParams := (m.params.filter fun p => !isContextType p.type).map (·.name)
    -- every {name} of the FULL route (controller prefix + method route) is referenced by a @Path (by alias or by name)
    (∀ p ∈ urlParams, (pathAttrs.map refName).contains p = true) ∧
    -- every @Path names a parameter, carries a well-typed alias, and a non-empty alias is a {name} of the route
    (∀ a ∈ pathAttrs, funcParams.contains a.value = true ∧ aliasOf a ≠ .bad ∧
        ∀ al, aliasOf a = .ok al → al ≠ "" → urlParams.contains al = true) ∧
    -- every other binding annotation with a value names a parameter
    (∀ a ∈ m.annots, isBindingAnnot a.name = true → (a.value.toList.all (· = ' ')) = false → funcParams.contains a.value = true) := by
  intro route urlParams pathAttrs funcParams
  have ok := (linkValidate_eq_nil_iff ctrlRoute m).1 h
  exact ⟨fun p hp => List.contains_iff_mem.2 (ok.urlReferenced p hp),
    fun a ha => ⟨List.contains_iff_mem.2 (ok.paths.known a ha), ok.paths.aliasOk a ha,
      fun al hal hne => List.contains_iff_mem.2 (ok.paths.aliasInUrl a ha al hal hne)⟩,
    fun a ha hb hv => List.contains_iff_mem.2 (ok.othersKnown a ha hb hv)⟩

/-- **one-to-one**: in an accepted route the `{names}` of the full template are pairwise distinct, the URL names of
    the @Path annotations (alias, else the parameter's name) are pairwise distinct, every `{name}` is the URL name of
    a @Path, and every ALIASED @Path names a `{name}` of the template.  (The fourth inclusion for un-aliased @Path
    annotations is what finding C10-F2 is about: `link_bijection_partial` below needs it as a hypothesis, and
    `unaliased_outside_route_is_accepted` shows the validator does not establish it.) -/
theorem link_injective (ctrlRoute : String) (m : Method) (h : linkValidate ctrlRoute m = []) :
    let route := ((m.annots.filter (·.name = "Route")).head?.map (·.value)).getD ""
    let urlParams := extractUrlParams (ctrlRoute ++ route)
    let pathAttrs := m.annots.filter (·.name = "Path")
    urlParams.Nodup ∧ (pathAttrs.map urlName).Nodup ∧
    (∀ p ∈ urlParams, p ≠ "" → p ∈ pathAttrs.map urlName) ∧
    (∀ a ∈ pathAttrs, ∀ al, aliasOf a = .ok al → al ≠ "" → urlName a ∈ urlParams) := by
  intro route urlParams pathAttrs
  have ok := (linkValidate_eq_nil_iff ctrlRoute m).1 h
  refine ⟨ok.urlNodup, ok.paths.namesFresh.1, fun p hp hne => ?_,
    fun a ha al hal hne => urlName_of_alias hal hne ▸ ok.paths.aliasInUrl a ha al hal hne⟩
  obtain ⟨a, ha, rfl⟩ := List.mem_map.1 (ok.urlReferenced p hp)
  -- an empty alias is read as the name "", which `p` is not
  exact List.mem_map.2 ⟨a, ha, (refName_eq_urlName fun e => hne (by simp [refName, e])).symm⟩

/-- the property's one-to-one correspondence, under the hypothesis the validator does not check (C10-F2) -/
theorem link_bijection_partial (ctrlRoute : String) (m : Method) (h : linkValidate ctrlRoute m = [])
    (hF2 : ∀ a ∈ m.annots.filter (·.name = "Path"), (∀ al, aliasOf a = .ok al → al = "") →
        a.value ∈ extractUrlParams (ctrlRoute ++ ((m.annots.filter (·.name = "Route")).head?.map (·.value)).getD "")) :
    let route := ((m.annots.filter (·.name = "Route")).head?.map (·.value)).getD ""
    let urlParams := extractUrlParams (ctrlRoute ++ route)
    let pathNames := (m.annots.filter (·.name = "Path")).map urlName
    urlParams.Nodup ∧ pathNames.Nodup ∧ (∀ p ∈ urlParams, p ≠ "" → p ∈ pathNames) ∧ (∀ n ∈ pathNames, n ∈ urlParams) := by
  intro route urlParams pathNames
  obtain ⟨h1, h2, h3, h4⟩ := link_injective ctrlRoute m h
  refine ⟨h1, h2, h3, ?_⟩
  intro n hn
  obtain ⟨a, ha, rfl⟩ := List.mem_map.1 hn
  by_cases hno : ∀ al, aliasOf a = .ok al → al = ""
  · exact urlName_of_no_alias hno ▸ hF2 a ha hno
  · simp only [Classical.not_forall] at hno
    obtain ⟨al, hal, hne⟩ := hno
    exact h4 a ha al hal hne

/-- C10-F2, as a fact about the model: a route whose un-aliased @Path names no `{name}` of the template passes the
    link validator (the witness of `corpus/C10/unlinked_path.jsonl`) -/
theorem unaliased_outside_route_is_accepted :
    let m : Method := { name := "Get", annots := [⟨"Method", "GET", [], ""⟩, ⟨"Route", "/b", [], ""⟩, ⟨"Path", "id", [], ""⟩],
                        params := [⟨"id", "string"⟩], results := ["error"] }
    linkValidate "/t" m = [] ∧ ¬ (urlName ⟨"Path", "id", [], ""⟩ ∈ extractUrlParams ("/t" ++ "/b")) := by
  decide +kernel

/-- non-vacuity: a route with a prefix parameter, an aliased and an un-aliased @Path meets the hypotheses -/
example :
    let m : Method := { name := "Get", annots := [⟨"Method", "GET", [], ""⟩, ⟨"Route", "/{id}/x/{k}", [], ""⟩,
                          ⟨"Path", "tenant", [], ""⟩, ⟨"Path", "id", [], ""⟩, ⟨"Path", "key", [("name", .str, "k")], ""⟩],
                        params := [⟨"tenant", "string"⟩, ⟨"id", "int"⟩, ⟨"key", "string"⟩], results := ["error"] }
    linkValidate "/t/{tenant}" m = [] := by decide +kernel

/-- since the fix for C10-F5: an un-aliased @Path whose parameter is named like another @Path's alias is refused -/
example :
    let m : Method := { name := "Get", annots := [⟨"Method", "GET", [], ""⟩, ⟨"Route", "/{b}", [], ""⟩,
                          ⟨"Path", "a", [("name", .str, "b")], ""⟩, ⟨"Path", "b", [], ""⟩],
                        params := [⟨"a", "string"⟩, ⟨"b", "string"⟩], results := ["error"] }
    linkValidate "" m = [err "linker-duplicate-path-alias-ref"] := by decide +kernel

/-- **every non-context parameter is referenced** by a @Path or by another binding annotation -/
theorem params_referenced (ctrlRoute : String) (m : Method) (hnd : (m.params.map (·.name)).eraseDups.length = m.params.length)
    (h : linkValidate ctrlRoute m = []) :
    ∀ p ∈ m.params, isContextType p.type = false →
      (∃ a ∈ m.annots, (a.name = "Path" ∨ (isBindingAnnot a.name = true ∧ (a.value.toList.all (· = ' ')) = false)) ∧ a.value = p.name) :=
  ((linkValidate_eq_nil_iff ctrlRoute m).1 h).allReferenced

/-- **at most one body, never body together with form fields**: the parameter pass reports nothing -/
theorem body_form_sound (env : TypeEnv) (m : Method) (ps : List MParam) (seen : List PassedIn)
    (h : validateParams.go env m ps seen = some []) :
    ∀ p ∈ ps, isContextType p.type = false → ∀ loc, passedInOf m.annots p.name = some (.ok loc) →
      (loc = .body → seen.contains .body = false ∧ seen.contains .form = false) ∧
      (loc = .form → seen.contains .body = false) := by
  intro p hp hctx loc hloc
  simp only [List.contains_eq_mem, decide_eq_false_iff_not]
  obtain ⟨-, -, -, hseen⟩ := (validateParams_go_eq_nil env m ps seen).1 h
  exact (forall_compat_iff seen loc).1 fun a ha => hseen a ha loc (mem_locsOf hp hctx hloc)

end Gleece.Validate

namespace Gleece.Order

/-- **Blocks**: an error-severity diagnostic makes the pipeline return an error before the intermediate
    representation is built … -/
theorem run_blocks_on_error_diagnostics :
    let evs := eventsOf "core/pipeline/pipeline.go:Run"
    before evs "p.Validate" "diagnostics.GetDiagnosticsWithSeverity" = true ∧
    guarded evs "diagnostics.GetDiagnosticsWithSeverity" = true ∧
    before evs "diagnostics.GetDiagnosticsWithSeverity" "p.GenerateIntermediate" = true := by decide +kernel

/-- … and every command writes its artifacts only after the pipeline succeeded -/
theorem commands_write_after_success :
    (let evs := eventsOf "cmd/entrypoint.go:GenerateSpecAndRoutes"
     guarded evs "GetConfigAndMetadata" = true ∧ before evs "GetConfigAndMetadata" "routes.GenerateRoutes" = true ∧
     before evs "GetConfigAndMetadata" "swagen.GenerateSpec" = true ∧ before evs "GetConfigAndMetadata" "swagen.OutputSpec" = true) ∧
    (let evs := eventsOf "cmd/entrypoint.go:GenerateRoutes"
     guarded evs "GetConfigAndMetadata" = true ∧ before evs "GetConfigAndMetadata" "routes.GenerateRoutes" = true) ∧
    (let evs := eventsOf "cmd/entrypoint.go:GenerateSpec"
     guarded evs "GetConfigAndMetadata" = true ∧ before evs "GetConfigAndMetadata" "swagen.GenerateAndOutputSpec" = true) := by
  decide +kernel

end Gleece.Order
