/-
  C11 — The 3.0 and 3.1 documents describe the same API.

  The structural part (paths, verbs, operationIds, tags, parameters, bodies, response codes, security)
  is ONE model function for both emitters (`Gleece/Model/IR.lean`); the C01/C04/C06 checks compare each
  real document with it, so "both versions agree" on those parts is the conjunction of those ties.
  Here: the dialect translation itself is proved meaning-preserving, the numeric-bound converters of
  both versions are proved equivalent under it when a tag has at most one rule per side, and the
  implementation-vs-implementation comparison (`checkC11`, no model in the loop) diffs the two real
  documents after translation on every run.
  `Model/Bounds.lean` is the numeric-bounds part of the two converters on its own (values already parsed);
  `Model/Conv.lean` / `Properties/Conv.lean` model the same two functions rule by rule with the parsers as
  parameters.  No theorem relates the two models; the second half of this file ties the second one to the source.
-/
import Gleece.Model.Bounds
import Gleece.Model.IR
import Gleece.Properties.Conv
import Gleece.Generated.ValidationRules
namespace Gleece.Bounds

/-- **The dialect translation preserves meaning**: a number satisfies the translated 3.1 bounds iff it
    satisfies the 3.0 bounds. -/
theorem dialect_preserves (b : B30) (x : Int) : sat31 (dialect b) x ↔ sat30 b x := by
  unfold sat31 sat30 dialect
  cases b with
  | mk mn emn mx emx =>
    cases emn <;> cases emx <;> simp

theorem dialect_apply_lower (b30 : B30) (r : Rule × Int) (h : lowerFamily r.1 = true) :
    (dialect (apply30 b30 r)).min = (apply31 {} r).min ∧ (dialect (apply30 b30 r)).exclMin = (apply31 {} r).exclMin := by
  obtain ⟨k, n⟩ := r
  cases k <;> simp_all [lowerFamily, apply30, apply31, dialect]

/-- one rule commutes with the dialect translation when its side of the 3.0 schema is still unwritten -/
theorem dialect_apply (b : B30) (r : Rule × Int)
    (h : if lowerFamily r.1 then b.min = none ∧ b.exclMin = false else b.max = none ∧ b.exclMax = false) :
    dialect (apply30 b r) = apply31 (dialect b) r := by
  obtain ⟨k, n⟩ := r
  obtain ⟨mn, emn, mx, emx⟩ := b
  cases k <;> obtain ⟨rfl, rfl⟩ := h <;> rfl

/-- … and it leaves the other side as it is -/
theorem apply30_other_side (b : B30) (r : Rule × Int) :
    if lowerFamily r.1 then (apply30 b r).max = b.max ∧ (apply30 b r).exclMax = b.exclMax
    else (apply30 b r).min = b.min ∧ (apply30 b r).exclMin = b.exclMin := by
  obtain ⟨k, n⟩ := r
  cases k <;> simp [lowerFamily, apply30]

/-- **One rule**: both converters produce the same bound, up to dialect. -/
theorem converters_agree_single (r : Rule × Int) : dialect (apply30 {} r) = apply31 {} r :=
  dialect_apply {} r (by split <;> exact ⟨rfl, rfl⟩)

/-- **At most one rule per side**: both converters produce the same bounds, up to dialect. -/
theorem converters_agree (rs : List (Rule × Int)) (h : oneRulePerFamily rs = true) :
    dialect (rs.foldl apply30 {}) = rs.foldl apply31 {} := by
  -- every rule is of one of the two families, so `h` bounds the length by 2, and two rules are of different families
  match rs, h with
  | [], _ => rfl
  | [r], _ => exact converters_agree_single r
  | [r1, r2], h =>
    refine (dialect_apply _ r2 ?_).trans (congrArg (apply31 · r2) (converters_agree_single r1))
    have hk := apply30_other_side {} r1
    cases h1 : lowerFamily r1.1 <;> cases h2 : lowerFamily r2.1 <;> simp_all [oneRulePerFamily]
  | r1 :: r2 :: r3 :: rest, h =>
    have := List.length_eq_countP_add_countP (fun r : Rule × Int => lowerFamily r.1) (l := r1 :: r2 :: r3 :: rest)
    simp only [oneRulePerFamily, Bool.and_eq_true, decide_eq_true_eq, ← List.countP_eq_length_filter] at h
    simp only [List.length_cons, Bool.not_eq_true, Bool.decide_eq_false] at this
    omega

/-- **Outside that hypothesis the two versions differ** (finding C11-F3): `lt=10,lte=9` -/
theorem converters_differ_witness :
    dialect ([(Rule.lt, 10), (Rule.lte, 9)].foldl apply30 {}) ≠ [(Rule.lt, 10), (Rule.lte, 9)].foldl apply31 {} := by decide

/-- … and there the 3.1 document is the faithful one: it keeps both constraints -/
example : sat31 ([(Rule.lt, 10), (Rule.lte, 9)].foldl apply31 {}) 9 := by
  simp [sat31, apply31]
example : oneRulePerFamily [(Rule.gt, 0), (Rule.lte, 9)] = true := by decide

end Gleece.Bounds

/-! ### the converter model is the code's `switch` (regenerated tables) -/
namespace Gleece.Conv

theorem numeric_iff (t : Ty) : t.numeric = true ↔ t = .integer ∨ t = .number := by
  cases t <;> simp [Ty.numeric]

/-- a rule does nothing for a type outside its guard list — for both converters -/
theorem outside_guard {ν} (P : Parsers ν) (t : Ty) (k : Kind) (v : String) (hk : k ≠ .enum ∧ k ≠ .oneof) (ht : t ∉ guardOf k) :
    (∀ s, apply30 P t s (k, v) = s) ∧ (∀ s, apply31 P t s (k, v) = s) := by
  cases k <;> simp_all [guardOf, apply30, apply31, numeric_iff]

/-- which parser reads the value of each rule, per converter: what `apply30` / `apply31` assume
    (`P.num` = ParseNumber, `P.uint` = ParseUInteger, `len31` = ParseNonNegativeInteger, `P.bool` = ParseBool) -/
def modelParser (emitter : String) (k : Kind) : List String :=
  match k with
  | .gt | .gte | .lt | .lte => ["ParseNumber"]
  | .min | .max => [if emitter = "3.0" then "ParseUInteger" else "ParseNonNegativeInteger", "ParseNumber"]
  | .len | .minItems | .maxItems => [if emitter = "3.0" then "ParseUInteger" else "ParseNonNegativeInteger"]
  | .uniqueItems => ["ParseBool"]
  | _ => [""]

/-- **Every row of the regenerated rule table names the parser the model uses for that rule** -/
theorem parsers_are_modelled :
    ∀ row ∈ Gleece.Generated.validationRules, (modelParser row.1 (kindOf row.2.1)).contains row.2.2.1 = true := by
  decide +kernel

/-- … and every rule of the model has its rows in the table (no rule of the model is missing from a converter) -/
theorem model_rules_in_table :
    ∀ e ∈ ["3.0", "3.1"], ∀ r ∈ ["email", "uuid", "ip", "ipv4", "ipv6", "hostname", "date", "datetime", "gt", "gte", "lt", "lte", "min", "max",
        "len", "pattern", "minItems", "maxItems", "uniqueItems", "enum", "oneof"],
      ∀ p ∈ modelParser e (kindOf r), (Gleece.Generated.validationRules.any fun row => row.1 = e && row.2.1 = r && row.2.2.1 = p) = true := by
  decide +kernel

/-- no rule of the table is unknown to the model -/
theorem table_rules_in_model : ∀ row ∈ Gleece.Generated.validationRules, kindOf row.2.1 ≠ .unknown := by
  decide +kernel

/-- the `switch specType` labels of the member-list rules: 3.0 types members for four scalar types (`members30`),
    3.1 tags three (`oneof31`) and compares with "string" in `enum` (`enum31`) -/
def modelSwitch (emitter : String) (k : Kind) : List String × List String :=
  match k with
  | .enum => if emitter = "3.0" then ([], ["boolean", "integer", "number", "string"]) else (["string"], [])
  | .oneof => if emitter = "3.0" then ([], ["boolean", "integer", "number", "string"]) else ([], ["integer", "number", "string"])
  | k => ((guardOf k).map Ty.name, [])

/-- **Every row of the regenerated guard table is the guard the model uses** (`outside_guard` says what a guard means) -/
theorem guards_are_modelled :
    ∀ row ∈ Gleece.Generated.validationGuards, (row.2.2.1, row.2.2.2) = modelSwitch row.1 (kindOf row.2.1) := by
  decide +kernel

end Gleece.Conv
