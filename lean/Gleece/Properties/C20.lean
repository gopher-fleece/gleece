/-
  C20 — Configuration is validated up front and honoured in the output.

  Proved: the permission strings the validator lets through are exactly strings
  `PermissionStringToFileMod` accepts, and the mode is their octal value (≤ 0o777), so the configured
  permissions are honoured; a `required` string field without a preceding `omitempty` rejects the empty
  value and the report names that tag; an `omitempty` field with an empty value is never reported;
  the package name defaults to `routes`.  Decided on the regenerated call skeletons: validation happens
  inside LoadGleeceConfig and its failure is returned before any source analysis; every command loads the
  configuration first.  The struct tree and its tags (`Gleece/Generated/ConfigSchema.lean`) are reflected
  from the harness build of /repo on every run; the interpreter over that schema (driver) is compared
  with the REAL command on an enumerated family of documents: the valid base, every deletion of a
  section / field, every listed value of every constrained field, random double corruptions.
-/
import Gleece.Model.Config
import Gleece.Model.Order
import Gleece.Generated.ConfigSchema
namespace Gleece.Config
open Gleece.Text

theorem isOctal_val (c : Char) (h : isOctal c = true) : octVal c ≤ 7 := by
  simp only [isOctal, Bool.and_eq_true, decide_eq_true_eq] at h
  unfold octVal
  have h1 : '0'.toNat ≤ c.toNat := h.1
  have h2 : c.toNat ≤ '7'.toNat := h.2
  have e0 : '0'.toNat = 48 := by decide
  have e7 : '7'.toNat = 55 := by decide
  omega

theorem permToMode_three (a b c : Char) (h : (isOctal a && isOctal b && isOctal c) = true) :
    ∃ n, permToMode [a, b, c] = some n ∧ n ≤ 511 := by
  simp only [Bool.and_eq_true] at h
  have va := isOctal_val a h.1.1; have vb := isOctal_val b h.1.2; have vc := isOctal_val c h.2
  refine ⟨(octVal a * 8 + octVal b) * 8 + octVal c, ?_, by omega⟩
  simp [permToMode, parseOctal, h.1.1, h.1.2, h.2]
  omega

theorem permToMode_zero_cons (s : Str) (hs : s ≠ []) : permToMode ('0' :: s) = permToMode s := by
  cases s with
  | nil => exact absurd rfl hs
  | cons c t =>
    simp only [permToMode, parseOctal, List.isEmpty_cons, Bool.false_or, List.all_cons, show isOctal '0' = true from rfl,
      Bool.true_and, List.foldl_cons, show octVal '0' = 0 from rfl, Nat.zero_mul, Nat.add_zero]

/-- **Accepted permission strings are honoured**: whatever the `regex` tag lets through is empty (default
    0644) or parses as an octal mode of at most 0o777, which `PermissionStringToFileMod` accepts. -/
theorem perms_accepted_are_valid (s : Str) (h : permsRegex s = true) :
    s = [] ∨ ∃ n, permToMode s = some n ∧ n ≤ 511 := by
  unfold permsRegex at h
  split at h
  · exact Or.inl rfl
  · exact Or.inr (permToMode_three _ _ _ h)
  · exact Or.inr (by rw [permToMode_zero_cons _ (List.cons_ne_nil _ _)]; exact permToMode_three _ _ _ h)
  · cases h

/-- the written file mode is the configured one (or 0644 when none is configured) -/
theorem mode_honoured (s : Str) (h : permsRegex s = true) :
    (s = [] ∧ outputFileMode s = 420) ∨ (∃ n, permToMode s = some n ∧ outputFileMode s = n) := by
  rcases perms_accepted_are_valid s h with rfl | ⟨n, hn, _⟩
  · exact Or.inl ⟨rfl, by simp [outputFileMode]⟩
  · right
    refine ⟨n, hn, ?_⟩
    cases s with
    | nil => simp [permToMode, parseOctal] at hn
    | cons _ _ => simp [outputFileMode, hn]

/-- **A required field rejects the empty value and the report names `required`** (when no `omitempty`
    precedes it). -/
theorem required_rejects_empty (lib : String → Str → Bool) (rest : List String) :
    firstFailure lib ("required" :: rest) [] = some "required" := by
  simp [firstFailure, evalTag]

/-- an `omitempty` field with an empty value is never reported -/
theorem omitempty_skips (lib : String → Str → Bool) (rest : List String) :
    firstFailure lib ("omitempty" :: rest) [] = none := by
  simp [firstFailure, evalTag]

/-- the reported tag is one of the field's own tags (up to the `name=param` spelling) -/
theorem failure_names_a_tag (lib : String → Str → Bool) (tags : List String) (v : Str) (t : String)
    (h : firstFailure lib tags v = some t) : ∃ tag ∈ tags, t = tag ∨ t = "oneof" ∨ t = "regex" := by
  fun_induction firstFailure lib tags v with
  | case1 => cases h
  | case2 => cases h
  | case3 x xs _ ih =>
    obtain ⟨tag, ht, hh⟩ := ih h
    exact ⟨tag, List.mem_cons_of_mem _ ht, hh⟩
  | case4 x xs _ =>
    cases h
    refine ⟨x, List.mem_cons_self, ?_⟩
    split
    · exact Or.inr (Or.inl rfl)
    · split
      · exact Or.inr (Or.inr rfl)
      · exact Or.inl rfl

theorem packageName_default : packageName "" = "routes" ∧ ∀ p, p ≠ "" → packageName p = p :=
  ⟨rfl, fun p hp => by simp [packageName, String.isEmpty_iff, hp]⟩

/-- the regenerated struct tree has a field with this json path, Go name, kind and `validate` tag -/
def schemaHas (path field kind tag : String) : Bool :=
  Gleece.Generated.configSchema.any fun r => r.1 == path && r.2.1 == field && r.2.2.1 == kind && r.2.2.2 == tag

/-- a row is found in the table by comparing string literals as written; evaluating `schemaHas` instead runs
    `String.decEq` over UTF-8 bytes in the kernel for every row in front of it, which is slow to check -/
theorem schemaHas_of_mem {p f k t : String} (h : (p, f, k, t) ∈ Gleece.Generated.configSchema) :
    schemaHas p f k t = true :=
  List.any_eq_true.2 ⟨_, h, by simp only [BEq.beq, decide_true, Bool.and_self]⟩

/-- the schema facts the property relies on, against the regenerated struct tree -/
theorem schema_facts :
    schemaHas "routesConfig.engine" "Engine" "string" "required,oneof=gin echo mux fiber chi" = true ∧
    schemaHas "openapiGeneratorConfig.openapi" "OpenAPI" "string" "required,oneof=3.0.0 3.1.0" = true ∧
    schemaHas "openapiGeneratorConfig.baseUrl" "BaseURL" "string" "required,url" = true ∧
    schemaHas "openapiGeneratorConfig.info.contact.email" "Email" "string" "email" = true ∧
    schemaHas "routesConfig.outputFilePerms" "OutputFilePerms" "string" "regex=^(0?[0-7]{3})?$" = true ∧
    schemaHas "routesConfig.outputPath" "OutputPath" "string" "required,filepath" = true ∧
    schemaHas "openapiGeneratorConfig.securitySchemes[].type" "Type" "string" "required,security_schema_type" = true := by
  refine ⟨?_, ?_, ?_, ?_, ?_, ?_, ?_⟩ <;> apply schemaHas_of_mem <;>
    simp only [Gleece.Generated.configSchema, List.mem_cons, true_or, or_true]

/-! ### `controllerGlobs` -/

/-- the characters `segMatch` does not take literally -/
def isMeta (c : Char) : Bool := c = '*' || c = '?'

/-- a component without `*` / `?` selects exactly itself -/
theorem segMatch_literal (p s : Str) (h : p.all (fun c => !isMeta c) = true) : segMatch p s = true ↔ p = s := by
  -- the cases of `segMatch`: 1-2 the pattern is empty, 3 it starts with `*`, 4-5 with `?`, 6-7 with a plain character
  fun_induction segMatch p s with
  | case1 => simp
  | case2 => simp
  | case3 ps s ih => cases h
  | case4 ps c cs ih => cases h
  | case5 ps => cases h
  | case6 p ps c cs h1 h2 ih =>
    rw [List.all_cons, Bool.and_eq_true] at h
    simp [ih h.2]
  | case7 p ps h1 h2 => simp

/-- `*` selects every component (and, being matched component-wise, never reaches across a separator) -/
theorem segMatch_star (s : Str) : segMatch ['*'] s = true := by
  rw [segMatch, List.any_eq_true]
  exact ⟨s.length, by simp, by simp [segMatch]⟩

/-- a `**` component stands for any number `k` of leading directories -/
theorem segsMatch_doublestar (ps s : List Str) :
    segsMatch (['*', '*'] :: ps) s = true ↔ ∃ k, k ≤ s.length ∧ segsMatch ps (s.drop k) = true := by
  conv => lhs; unfold segsMatch
  simp only [if_true, List.any_eq_true, List.mem_range, Nat.lt_succ_iff]

/-- a `**` component stands for ZERO directories … -/
theorem doublestar_zero (ps s : List Str) (h : segsMatch ps s = true) : segsMatch (['*', '*'] :: ps) s = true :=
  (segsMatch_doublestar ps s).2 ⟨0, Nat.zero_le _, h⟩

/-- … or for one more directory than it already does -/
theorem doublestar_more (ps : List Str) (d : Str) (s : List Str) (h : segsMatch (['*', '*'] :: ps) s = true) :
    segsMatch (['*', '*'] :: ps) (d :: s) = true := by
  obtain ⟨k, hk, hm⟩ := (segsMatch_doublestar ps s).1 h
  exact (segsMatch_doublestar ps (d :: s)).2 ⟨k + 1, Nat.succ_le_succ hk, hm⟩

/-- a pattern of plain components selects exactly the path with those components -/
theorem segsMatch_literal (ps s : List Str) (h : ∀ p ∈ ps, p.all (fun c => !isMeta c) = true) :
    segsMatch ps s = true ↔ ps = s := by
  fun_induction segsMatch ps s with
  | case1 => simp
  | case2 => simp
  | case3 ps s ih => exact absurd (h _ List.mem_cons_self) (by decide)
  | case4 p ps hne => simp
  | case5 p ps hne c cs ih =>
    simp only [Bool.and_eq_true, List.cons.injEq]
    rw [segMatch_literal p c (h p (by simp)), ih (fun q hq => h q (by simp [hq]))]

/-- the shapes the generated configurations use, on the generated tree -/
example : globMatch "./ctl/**/*.go".toList "ctl/a.go".toList = true ∧ globMatch "./ctl/**/*.go".toList "ctl/sub/deep/d.go".toList = true ∧
    globMatch "./ctl/*.go".toList "ctl/sub/c.go".toList = false ∧ globMatch "./ctl/{a,b}.go".toList "ctl/b.go".toList = true ∧
    globMatch "./ctl/{a,b}.go".toList "ctl/sub/c.go".toList = false ∧ globMatch "**/d.go".toList "ctl/sub/deep/d.go".toList = true := by decide +kernel

end Gleece.Config

namespace Gleece.Order

/-- **Rejected before any source analysis**: the struct is validated inside LoadGleeceConfig and a
    failure is returned; the metadata pipeline starts only after the configuration was accepted -/
theorem config_rejected_before_analysis :
    (let evs := eventsOf "cmd/entrypoint.go:LoadGleeceConfig"
     guarded evs "json5.Unmarshal" = true ∧ guarded evs "validation.ValidateStruct" = true ∧
     before evs "json5.Unmarshal" "validation.ValidateStruct" = true) ∧
    (let evs := eventsOf "cmd/entrypoint.go:GetConfigAndMetadata"
     guarded evs "LoadGleeceConfig" = true ∧ before evs "LoadGleeceConfig" "getFullMetadata" = true) := by
  decide +kernel

/-- every command loads (and thereby validates) the configuration before it generates anything, and
    returns when that fails -/
theorem every_command_loads_config_first :
    ["cmd/entrypoint.go:GenerateSpec", "cmd/entrypoint.go:GenerateRoutes", "cmd/entrypoint.go:GenerateSpecAndRoutes"].all (fun f =>
      let evs := eventsOf f
      guarded evs "GetConfigAndMetadata" && (evs.head?.map (fun e => e.1 == "call" && e.2.1 == "GetConfigAndMetadata")).getD false) = true := by
  decide +kernel

/-- **nothing is written when the document cannot be generated**: the combined command builds the document first
    and returns on its failure before the routes file is written (this was finding C20-F2) -/
theorem spec_failure_writes_nothing :
    (let evs := eventsOf "cmd/entrypoint.go:GenerateSpecAndRoutes"
     guarded evs "swagen.GenerateSpec" = true ∧ before evs "swagen.GenerateSpec" "routes.GenerateRoutes" = true ∧
     before evs "swagen.GenerateSpec" "swagen.OutputSpec" = true) := by
  decide +kernel

/-- the routes file is written with the mode computed from the configured permission string -/
theorem routes_written_with_configured_mode :
    (let evs := eventsOf "generator/routes/generator.go:GenerateRoutes"
     before evs "getOutputFileMod" "os.WriteFile" = true ∧ before evs "os.MkdirAll" "os.WriteFile" = true) := by
  decide +kernel

end Gleece.Order
