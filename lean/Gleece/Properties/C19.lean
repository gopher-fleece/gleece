/-
  C19 — Re-running analysis on an unchanged project is idempotent and cache-transparent.

  Proved: the import-serial memo is a function of the key after first use — a second pass over the same
  keys hands out the same serials and leaves the memo untouched (`rerun_serials`); re-inserting a node
  under the same file version and re-inserting an existing edge change nothing in the symbol graph
  (C17: `guardedAdd_same_version`, `addEdge_idem_edges`), so the graph does not grow.
  Tied by the `proj` stream with 1-3 repeated GenerateGraph/Validate/GenerateIntermediate rounds on ONE
  pipeline: canonical flattened metadata must be identical after every round and identical to a
  brand-new session's, and the node count must not change.
-/
import Gleece.Lemmas.Session
import Gleece.Properties.C17
namespace Gleece.Session

/-- `k` has been given a serial in this session -/
def known (m : Memo) (k : Nat) : Prop := ∃ p ∈ m.table, p.1 = k

theorem getId_of_known {m : Memo} {k : Nat} (h : known m k) : (getId m k).2 = m := by
  fun_cases getId m k with
  | case1 _ id hf => rfl
  | case2 hf =>
    obtain ⟨p, hp, hk⟩ := h
    exact absurd (decide_eq_true hk) (List.find?_eq_none.1 hf p hp)

theorem getId_known (m : Memo) (k k' : Nat) (h : known m k' ∨ k' = k) : known (getId m k).2 k' := by
  fun_cases getId m k with
  | case1 key i hf =>
    have hp : (key, i).1 = k := by simpa using List.find?_some hf
    exact h.elim id fun hk => ⟨_, List.mem_of_find?_eq_some hf, hp.trans hk.symm⟩
  | case2 hf =>
    exact h.elim (fun ⟨p, hp, hk⟩ => ⟨p, List.mem_append_left _ hp, hk⟩)
      fun hk => ⟨_, List.mem_append_right _ (List.mem_singleton_self _), hk.symm⟩

theorem runKeys_all_known (m : Memo) (ks : List Nat) (k : Nat) (h : known m k ∨ k ∈ ks) : known (runKeys m ks).2 k := by
  induction ks generalizing m with
  | nil => exact h.elim id (nomatch ·)
  | cons x xs ih =>
    refine ih _ (h.elim (fun h => Or.inl (getId_known m x k (Or.inl h))) fun hk => ?_)
    exact (List.mem_cons.1 hk).imp (fun hk => getId_known m x k (Or.inr hk)) id

/-- when every key is already known, a pass changes nothing and hands out exactly the memoised ids -/
theorem runKeys_of_known (m : Memo) (ks : List Nat) (h : ∀ k ∈ ks, known m k) :
    runKeys m ks = (ks.map fun k => (getId m k).1, m) := by
  induction ks with
  | nil => rfl
  | cons x xs ih =>
    unfold runKeys
    simp only [getId_of_known (h x (List.mem_cons_self ..)), ih fun k hk => h k (List.mem_cons_of_mem _ hk), List.map_cons]

/-- **Serial memo**: analysing again (same keys, same order) on the same session yields the same
    generated-code identifiers and leaves the memo as it was. -/
theorem rerun_serials (m : Memo) (ks : List Nat) :
    (runKeys (runKeys m ks).2 ks).2 = (runKeys m ks).2 :=
  by rw [runKeys_of_known _ ks fun k hk => runKeys_all_known m ks k (Or.inr hk)]

/-- the ids of the second pass are the ids each key was given in the first -/
theorem rerun_ids (m : Memo) (ks : List Nat) :
    (runKeys (runKeys m ks).2 ks).1 = ks.map fun k => (getId (runKeys m ks).2 k).1 :=
  by rw [runKeys_of_known _ ks fun k hk => runKeys_all_known m ks k (Or.inr hk)]

/-! ### non-vacuity -/
example : (runKeys {} [7, 3, 7, 9]).1 = [0, 1, 0, 2] := by decide
example : (runKeys (runKeys {} [7, 3, 7, 9]).2 [7, 3, 7, 9]).1 = [0, 1, 0, 2] := by decide

end Gleece.Session
