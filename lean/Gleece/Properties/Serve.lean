/-
  Request-level theorems (C02 / C03 / C05 / C06 / C12), for EVERY request and every route — no bound on the
  number of alternatives, parameters, header / query members:
   * C12: `serve` is the handler on top of the faithful framework (`serveRoute_std`), and two frameworks that hand
     over the same raw values give the same outcome (`interchangeable_of_accessors_agree`);
   * the controller method runs only if the route's effective security is empty or some alternative
     consists of schemes the callback approves (`called_only_if_approved`);
   * when every alternative contains a refused scheme nothing is parsed and nothing runs
     (`all_denied_refused`);
   * a request that lacks a required non-body parameter never reaches the controller
     (`missing_required_never_called`);
   * a request whose path matches no registered template is not served (`unmatched_not_served`), and a
     matched request is answered by a route with that verb (`served_by_matching_route`);
   * accepted integer text is in range of the declared width and is printed canonically
     (`parseIntegral_unsigned_in_range`, `parseIntegral_signed_in_range`);
   * C06: the reduced parameters are the signature's, in order (`reduceRoute_param_order`);
   * C05-F2: what HTML-escaping the validator tag did (`htmlEscape_id`, `escaped_tag_changes_meaning`).
-/
import Gleece.Model.Serve
import Gleece.Properties.Reduce
import Gleece.Properties.C03
namespace Gleece.Serve
open Gleece.Reduce Gleece.Validate Gleece.IR Gleece.Router

/-! ### C12: what exactly the frameworks may differ in -/

theorem bindParam_std (enums : List String) (bound : List (String × String)) (rq : Req) (pi : PInfo) :
    bindParam enums bound rq pi = bindParamA enums (stdAccessors bound rq) pi := by
  unfold bindParam bindParamA
  -- the same tree of tests; only the body branch is written differently
  refine ite_congr rfl (fun _ => rfl) fun _ => ite_congr rfl (fun _ => ?_) fun _ => rfl
  show _ = Option.map _ (if _ then _ else _)
  cases (rq.hasBody && rq.bodyOk) <;> rfl

theorem bindAll_std (enums : List String) (bound : List (String × String)) (rq : Req) (infos : List PInfo) :
    bindAll enums bound rq infos = bindAllA enums (stdAccessors bound rq) infos := by
  induction infos with
  | nil => rfl
  | cons x xs ih => unfold bindAll bindAllA; rw [bindParam_std, ih]

/-- `serve` is the handler on top of the faithful framework with the deny-callback -/
theorem serveRoute_std (enums : List String) (sr : SRoute) (bound : List (String × String)) (rq : Req) :
    serveRoute enums sr bound rq = serveRouteA enums (denyCallback rq.deny) (stdAccessors bound rq) sr := by
  unfold serveRoute serveRouteA
  rw [bindAll_std]

/-- two frameworks agree on a request, as far as ONE route's parameters are concerned -/
def AccessorsAgree (a₁ a₂ : Accessors) (infos : List PInfo) : Prop :=
  (∀ pi ∈ infos, a₁.scalar pi = a₂.scalar pi ∧ a₁.multi pi = a₂.multi pi) ∧ a₁.body = a₂.body

theorem bindAllA_congr (enums : List String) (a₁ a₂ : Accessors) (infos : List PInfo) (h : AccessorsAgree a₁ a₂ infos) :
    bindAllA enums a₁ infos = bindAllA enums a₂ infos := by
  induction infos with
  | nil => rfl
  | cons x xs ih =>
    obtain ⟨hs, hm⟩ := h.1 x List.mem_cons_self
    have hx : bindParamA enums a₁ x = bindParamA enums a₂ x := by unfold bindParamA; rw [hs, hm, h.2]
    rw [bindAllA, bindAllA, hx, ih ⟨fun pi hpi => h.1 pi (List.mem_cons_of_mem _ hpi), h.2⟩]

/-- **Interchangeable**: the rendered handler is one function of (callback, what the framework hands over).
    Two engines whose accessors deliver the same raw values for a route's parameters give the same outcome —
    same checks asked in the same order, same refusal / 422 / controller call with the same arguments — for
    every callback.  Everything an engine can differ in is therefore an `AccessorsAgree` failure (findings
    C12-F1, C12-F3) or a dispatch difference before the handler is reached (C12-F2, C12-F4). -/
theorem interchangeable_of_accessors_agree (enums : List String) (cb : Callback) (a₁ a₂ : Accessors) (sr : SRoute)
    (h : AccessorsAgree a₁ a₂ sr.infos) : serveRouteA enums cb a₁ sr = serveRouteA enums cb a₂ sr := by
  unfold serveRouteA
  rw [bindAllA_congr enums a₁ a₂ sr.infos h]

/- the hypothesis is not idle: an accessor that hands over the undecoded path text (fiber, finding C12-F1)
   changes the outcome.  `accDecoded` / `accRaw`: two frameworks that differ only in that. -/
def exPathRoute : SRoute :=
  { ctrl := "C", ctrlPath := "/c",
    r := { opId := "Op", verb := "GET", path := "/{v}", hidden := false, deprecated := false, security := [],
           params := [], hasReturn := false, successCode := 204, errorCodes := [] },
    infos := [⟨⟨"v", false, "path", "v", "required", ""⟩, "string"⟩] }
def accDecoded : Accessors := { scalar := fun _ => some "a b", multi := fun _ => [], body := none }
def accRaw : Accessors := { scalar := fun _ => some "a%20b", multi := fun _ => [], body := none }
example : serveRouteA [] (denyCallback []) accDecoded exPathRoute ≠ serveRouteA [] (denyCallback []) accRaw exPathRoute := by
  decide +kernel

theorem serveRouteA_refused_iff (enums : List String) (cb : Callback) (acc : Accessors) (sr : SRoute) :
    (∃ asked, serveRouteA enums cb acc sr = .refused asked) ↔
      (authorize cb [] none (sr.r.security.map checksOf)).1 ≠ none := by
  -- the branches of `serveRouteA` in its order: refused, invalid, called
  fun_cases serveRouteA enums cb acc sr with
  | case1 asked e hA => rw [hA]; exact ⟨fun _ => Option.some_ne_none e, fun _ => ⟨_, rfl⟩⟩
  | case2 asked _ hA => rw [hA]; exact ⟨nofun, fun h => absurd rfl h⟩
  | case3 asked _ _ hA => rw [hA]; exact ⟨nofun, fun h => absurd rfl h⟩

theorem serveRouteA_called {enums : List String} {cb : Callback} {acc : Accessors} {sr : SRoute}
    {asked : List Check} {op : String} {args : List String} {st : Nat}
    (h : serveRouteA enums cb acc sr = .called asked op args st) :
    (authorize cb [] none (sr.r.security.map checksOf)).1 = none ∧ bindAllA enums acc sr.infos = some args := by
  revert h
  fun_cases serveRouteA enums cb acc sr with
  | case1 | case2 => nofun
  | case3 asked' args' hb hA => intro h; cases h; exact ⟨congrArg Prod.fst hA, hb⟩

/-- an alternative the deny-callback lets through: none of its schemes is refused -/
def altApproved (deny : List String) (l : List Check) : Bool := l.all fun c => !deny.contains c.scheme

theorem approvesAll_deny (deny : List String) (hist : List Check) (l : List Check) :
    approvesAll (denyCallback deny) hist l ↔ altApproved deny l = true := by
  induction l generalizing hist with
  | nil => exact ⟨fun _ => rfl, fun _ => trivial⟩
  | cons c cs ih =>
    simp only [approvesAll, altApproved, List.all_cons, Bool.and_eq_true, ih, denyCallback]
    cases deny.contains c.scheme <;> simp

theorem authorize_deny_none {deny : List String} {hist : List Check} {sec : Security}
    (h : (authorize (denyCallback deny) hist none (sec.map checksOf)).1 = none) :
    sec = [] ∨ ∃ alt ∈ sec, altApproved deny (checksOf alt) = true := by
  rcases authorize_none _ _ _ h with hnil | ⟨l, hl, h0, happ⟩
  · exact Or.inl (List.map_eq_nil_iff.1 hnil)
  · obtain ⟨alt, halt, rfl⟩ := List.mem_map.1 hl
    exact Or.inr ⟨alt, halt, (approvesAll_deny _ _ _).1 happ⟩

/-- **C03 at request level**: the controller method is called only when the effective security is empty or
    one alternative is entirely approved -/
theorem called_only_if_approved (enums : List String) (sr : SRoute) (bound : List (String × String)) (rq : Req)
    (asked : List Check) (op : String) (args : List String) (st : Nat)
    (h : serveRoute enums sr bound rq = .called asked op args st) :
    sr.r.security = [] ∨ ∃ alt ∈ sr.r.security, altApproved rq.deny (checksOf alt) = true :=
  authorize_deny_none (serveRouteA_called (serveRoute_std .. ▸ h)).1

/-- **every alternative refused ⇒ nothing is parsed, nothing runs** -/
theorem all_denied_refused (enums : List String) (sr : SRoute) (bound : List (String × String)) (rq : Req)
    (hne : sr.r.security ≠ [])
    (hden : ∀ alt ∈ sr.r.security, altApproved rq.deny (checksOf alt) = false) :
    ∃ asked, serveRoute enums sr bound rq = .refused asked := by
  rw [serveRoute_std, serveRouteA_refused_iff]
  intro hn
  rcases authorize_deny_none hn with hnil | ⟨alt, halt, happ⟩
  · exact hne hnil
  · exact Bool.false_ne_true ((hden alt halt).symm.trans happ)

/-- **the two router models agree on the gate**: the request-level model refuses exactly when the step-list
    model of the rendered handler (`Router.exec` over `handlerOf`, the model the go/ast extraction of the
    rendered file is compared with) runs no parsing / controller step — for every route with the same
    effective security, every request, every deny set. -/
theorem serve_refused_iff_exec_gate (enums : List String) (sr : SRoute) (bound : List (String × String)) (rq : Req)
    (c : Controller) (r : Route) (hsec : enforcedSecurity r = sr.r.security) :
    (∃ asked, serveRoute enums sr bound rq = .refused asked) ↔
      (exec (denyCallback rq.deny) (handlerOf c r)).any isControllerEvent = false := by
  rw [serveRoute_std, serveRouteA_refused_iff, controller_iff_approved, hsec]
  cases (authorize (denyCallback rq.deny) [] none (sr.r.security.map checksOf)).1 <;> simp

theorem bindAll_some_each (enums : List String) (bound : List (String × String)) (rq : Req) (infos : List PInfo)
    (args : List String) (h : bindAll enums bound rq infos = some args) :
    ∀ pi ∈ infos, (bindParam enums bound rq pi).isSome = true := by
  fun_induction bindAll enums bound rq infos generalizing args with
  | case1 => intro _ h; cases h
  | case2 => cases h
  | case3 x xs a hx ih =>
    obtain ⟨rest, hr, _⟩ := Option.map_eq_some_iff.1 h
    exact List.forall_mem_cons.2 ⟨hx ▸ rfl, ih rest hr⟩

/-- **C05**: a required scalar parameter (query / header / form) that the request does not carry stops the
    request before the controller -/
theorem missing_required_never_called (enums : List String) (sr : SRoute) (bound : List (String × String)) (rq : Req)
    (pi : PInfo) (hin : pi ∈ sr.infos) (hctx : pi.p.isContext = false)
    (hloc : pi.p.passedIn = "query") (hscalar : (stripPtr pi.ty).startsWith "[]" = false)
    (hreq : isFieldRequired pi.p.validator.toList = true)
    (hmiss : rq.query.find? (·.1 = pi.p.nameInSchema) = none) :
    ∀ asked op args st, serveRoute enums sr bound rq ≠ .called asked op args st := by
  intro asked op args st h
  have hb := (serveRouteA_called (serveRoute_std .. ▸ h)).2
  rw [← bindAll_std] at hb
  have := bindAll_some_each enums bound rq sr.infos args hb pi hin
  simp [bindParam, hctx, hscalar, hloc, hmiss, hreq] at this

/-- **C02**: a request whose verb + path matches no registered template is not served -/
theorem unmatched_not_served (enums : List String) (routes : List SRoute) (rq : Req)
    (h : ∀ sr ∈ routes, sr.r.verb ≠ rq.method ∨ matchSegs (templateSegs sr.ctrlPath sr.r.path) rq.segs = none) :
    serve enums routes rq = .notServed := by
  have : findRoute routes rq = none := List.findSome?_eq_none_iff.2 fun sr hsr => by
    rcases h sr hsr with hv | hm
    · exact if_pos hv
    · rw [hm]; split <;> rfl
  rw [serve, this]

/-- a served request is answered by a registered route with the request's verb whose template matches -/
theorem served_by_matching_route (routes : List SRoute) (rq : Req) (sr : SRoute) (b : List (String × String))
    (h : findRoute routes rq = some (sr, b)) :
    sr ∈ routes ∧ sr.r.verb = rq.method ∧ matchSegs (templateSegs sr.ctrlPath sr.r.path) rq.segs = some b := by
  obtain ⟨x, hx, hxe⟩ := List.exists_of_findSome?_eq_some h
  obtain ⟨hv, hxe⟩ := Option.ite_none_left_eq_some.1 hxe
  obtain ⟨bb, hm, he⟩ := Option.map_eq_some_iff.1 hxe
  cases he
  exact ⟨hx, Decidable.not_not.1 hv, hm⟩

/-- a literal template segment is matched only by itself; a variable by any non-empty segment -/
theorem matchSegs_literal (t s : String) (ts ss : List String) (ht : isVar t = false) (hne : t ≠ s) :
    matchSegs (t :: ts) (s :: ss) = none := by
  rw [matchSegs, if_neg (ht ▸ Bool.false_ne_true), if_neg hne]

theorem forall_getElem_cons {α : Type} {P : α → α → Prop} {a b : α} {l m : List α} (h0 : P a b)
    (h : ∀ i (h₁ : i < l.length) (h₂ : i < m.length), P l[i] m[i]) :
    ∀ i (h₁ : i < (a :: l).length) (h₂ : i < (b :: m).length), P (a :: l)[i] (b :: m)[i]
  | 0, _, _ => h0
  | i + 1, h₁, h₂ => h i (Nat.lt_of_succ_lt_succ h₁) (Nat.lt_of_succ_lt_succ h₂)

/-- **C02 — what "matches" means**: a request path is matched by a template exactly when both have the same number
    of segments, every literal segment is equal, and every `{variable}` stands for a non-empty segment; the binding
    lists the variables in template order with the segments they stand for. -/
theorem matchSegs_spec : ∀ (ts ss : List String) (b : List (String × String)),
    matchSegs ts ss = some b →
      ts.length = ss.length ∧
      (∀ i (h₁ : i < ts.length) (h₂ : i < ss.length), isVar ts[i] = false → ts[i] = ss[i]) ∧
      b.map (·.1) = (ts.filter isVar).map varName := by
  intro ts ss b h
  fun_induction matchSegs ts ss generalizing b with
  | case1 => cases h; exact ⟨rfl, fun i h₁ => absurd h₁ (Nat.not_lt_zero i), rfl⟩
  | case2 | case5 | case6 => cases h
  | case3 t ts s ss hv _ ih =>
    obtain ⟨b', hb', rfl⟩ := Option.map_eq_some_iff.1 h
    obtain ⟨hl, hlit, hn⟩ := ih b' hb'
    exact ⟨congrArg (· + 1) hl,
      forall_getElem_cons (P := fun t s => isVar t = false → t = s) (fun hf => Bool.noConfusion (hv.symm.trans hf)) hlit,
      by rw [List.filter_cons_of_pos hv, List.map_cons, List.map_cons, hn]⟩
  | case4 ts s ss hv ih =>
    obtain ⟨hl, hlit, hn⟩ := ih b h
    exact ⟨congrArg (· + 1) hl,
      forall_getElem_cons (P := fun t s => isVar t = false → t = s) (fun _ => rfl) hlit,
      by rw [List.filter_cons_of_neg hv, hn]⟩

/-- **C05 — integer conversion**: accepted text denotes a value inside the declared unsigned width -/
theorem parseIntegral_unsigned_in_range (ty raw out : String) (hu : isUnsignedInt ty = true)
    (h : parseIntegral ty raw = some out) :
    ∃ n, digitsVal raw.toList = some n ∧ n < 2 ^ intWidth ty ∧ out = toString n := by
  simp only [parseIntegral] at h
  rw [if_pos hu] at h
  obtain ⟨-, h⟩ := Option.ite_none_left_eq_some.1 h
  split at h
  · cases h
  · obtain ⟨n, hn, h⟩ := Option.bind_eq_some_iff.1 h
    obtain ⟨hlt, h⟩ := Option.ite_none_right_eq_some.1 h
    exact ⟨n, hn, hlt, (Option.some.inj h).symm⟩

/-- **C05 — signed integers**: accepted text denotes a value inside the declared signed width: below 2^(w-1)
    when there is no minus sign, at most 2^(w-1) in absolute value when there is one -/
theorem parseIntegral_signed_in_range (ty raw out : String) (hs : isUnsignedInt ty = false) (hw : intWidth ty ≠ 0)
    (h : parseIntegral ty raw = some out) :
    ∃ n, digitsVal (splitSign raw.toList).2 = some n ∧
      (if (splitSign raw.toList).1 then n ≤ 2 ^ (intWidth ty - 1) else n < 2 ^ (intWidth ty - 1)) := by
  simp only [parseIntegral] at h
  rw [if_neg hw, if_neg (by rw [hs]; exact Bool.false_ne_true)] at h
  obtain ⟨n, hn, h⟩ := Option.bind_eq_some_iff.1 h
  refine ⟨n, hn, ?_⟩
  by_cases hneg : (splitSign raw.toList).1 = true
  · rw [if_pos hneg] at h ⊢; exact (Option.ite_none_right_eq_some.1 h).1
  · rw [if_neg hneg] at h ⊢; exact (Option.ite_none_right_eq_some.1 h).1

/-! non-vacuity: a route with two alternatives, the first refused; a missing required query member.
    `exReq deny query id` is `GET /c/a/<id>` with that query, the callback refusing the schemes in `deny`. -/
def exRoute : SRoute :=
  { ctrl := "C", ctrlPath := "/c/",
    r := { opId := "Op", verb := "GET", path := "/a/{id}", hidden := false, deprecated := false,
           security := [[⟨"s0", ["r"]⟩], [⟨"s1", []⟩]],
           params := [], hasReturn := true, successCode := 200, errorCodes := [] },
    infos := [⟨⟨"id", false, "path", "id", "required", ""⟩, "uint8"⟩, ⟨⟨"q", false, "query", "q", "required", ""⟩, "string"⟩, ⟨⟨"o", false, "query", "o", "", ""⟩, "*int"⟩] }

def exReq (deny : List String) (query : List (String × String)) (id : String) : Req :=
  { method := "GET", segs := ["c", "a", id], query := query, headers := [], form := [], hasBody := false, bodyOk := false, body := "", deny := deny }

example : serve [] [exRoute] (exReq ["s0"] [("q", "x")] "255") =
    .called [⟨"s0", ["r"]⟩, ⟨"s1", []⟩] "C.Op" ["255", "\"x\"", "<nil>"] 200 := by decide +kernel
example : serve [] [exRoute] (exReq ["s0", "s1"] [("q", "x")] "255") = .refused [⟨"s0", ["r"]⟩, ⟨"s1", []⟩] := by decide +kernel
example : serve [] [exRoute] (exReq [] [] "255") = .invalid [⟨"s0", ["r"]⟩] := by decide +kernel
example : serve [] [exRoute] (exReq [] [("q", "x")] "256") = .invalid [⟨"s0", ["r"]⟩] := by decide +kernel
example : serve [] [exRoute] { exReq [] [] "1" with segs := ["c", "b", "1"] } = .notServed := by decide +kernel

/-- **C06 — signature order survives reduction**: the reduced parameters are the signature's, in order -/
theorem reduceRoute_param_order (parent : Security) (m : Method) (rr : RRoute) (h : reduceRoute parent m = some rr) :
    rr.params.map (·.name) = m.params.map (·.name) :=
  reduceRoute_param_names h

end Gleece.Serve

/-! ### the validator tag (C05-F2) -/
namespace Gleece.Serve
open Gleece.Router

/-- a character `Router.htmlEscape` leaves alone -/
def plainChar (c : Char) : Bool := c != '&' && c != '\'' && c != '<' && c != '>' && c != '"'

/-- a validate string without `&`, `'`, `<`, `>`, `"` is what it is after HTML escaping … -/
theorem htmlEscape_id (s : String) (h : s.toList.all plainChar = true) : htmlEscape s = s := by
  rw [htmlEscape, List.flatMap_def, List.map_congr_left (g := fun c => [c]), ← List.flatMap_def, List.flatMap_singleton',
    String.ofList_toList]
  intro c hc
  have := List.all_eq_true.1 h c hc
  simp only [plainChar, bne_iff_ne, ne_eq, Bool.and_eq_true] at this
  simp only [this, if_false]

/-- … and one WITH such a character is not, which changes what the validator accepts: the defect that was C05-F2 (the
    declared option `light blue` passes the declared tag and fails the escaped one) -/
theorem escaped_tag_changes_meaning :
    validatorAccepts "oneof='light blue' navy" "light blue" = true ∧
    validatorAccepts (htmlEscape "oneof='light blue' navy") "light blue" = false ∧
    validatorAccepts (htmlEscape "oneof='light blue' navy") "navy" = true := by decide +kernel

end Gleece.Serve
