/-
  Theorems about the reducers (source annotations → flattened metadata), used by C01 (hidden routes),
  C03 / C04 (effective security), C06 (requiredness) and, for the reduced parameters, Link and Serve.
  For every annotation list — no bound on the number, order or content of annotations.
-/
import Gleece.Model.Reduce
import Gleece.Properties.C04
namespace Gleece.Reduce
open Gleece.Validate Gleece.IR Gleece.Text

/-- **C01**: a route is hidden iff it carries an @Hidden annotation — with or without a value -/
theorem hidden_iff (meth : List Annot) : hidden meth = true ↔ ∃ a ∈ meth, a.name = "Hidden" := by
  simp only [hidden, getFirst, List.find?_isSome, decide_eq_true_eq]

theorem securityFromContext_empty_iff (attrs : List Annot) :
    securityFromContext attrs = [] ↔ ∀ a ∈ attrs, a.name ≠ "Security" := by
  simp only [securityFromContext, getAll, List.map_eq_nil_iff, List.filter_eq_nil_iff, decide_eq_true_eq, ne_eq]

/-- the reducers compute exactly the property's `effectiveSecurity` (IR model) of the three written levels -/
theorem reduce_is_effective (meth ctrl : List Annot) (d : Option SecComp) :
    routeSecurity meth (controllerSecurity ctrl d) =
      effectiveSecurity (securityFromContext meth) (securityFromContext ctrl) d := by
  unfold routeSecurity controllerSecurity effectiveSecurity
  cases securityFromContext meth <;> cases securityFromContext ctrl <;> cases d <;> rfl

/-- **C03 / C04 — effective security**: the route's own annotations if any, else the controller's, else
    the configured default, else empty. -/
theorem effective_security (meth ctrl : List Annot) (d : Option SecComp) :
    routeSecurity meth (controllerSecurity ctrl d) =
      if securityFromContext meth ≠ [] then securityFromContext meth
      else if securityFromContext ctrl ≠ [] then securityFromContext ctrl
      else defaultSecurity d := by
  rw [reduce_is_effective, effective_def]
  cases d <;> rfl

/-- a configured default applies to every route without @Security of its own or of its controller —
    **whatever its scopes are** (an empty scope list does not switch it off) -/
theorem default_applies (meth ctrl : List Annot) (c : SecComp)
    (hm : ∀ a ∈ meth, a.name ≠ "Security") (hc : ∀ a ∈ ctrl, a.name ≠ "Security") :
    routeSecurity meth (controllerSecurity ctrl (some c)) = [[c]] := by
  rw [reduce_is_effective, (securityFromContext_empty_iff meth).2 hm, (securityFromContext_empty_iff ctrl).2 hc]
  rfl

/-- the effective security is empty only when nothing at all is configured -/
theorem effective_empty_iff (meth ctrl : List Annot) (d : Option SecComp) :
    routeSecurity meth (controllerSecurity ctrl d) = [] ↔
      (∀ a ∈ meth, a.name ≠ "Security") ∧ (∀ a ∈ ctrl, a.name ≠ "Security") ∧ d = none := by
  rw [reduce_is_effective, IR.effective_empty_iff, securityFromContext_empty_iff, securityFromContext_empty_iff]

/-- every alternative of a route's own security is one @Security annotation, in source order -/
theorem own_security_in_order (meth : List Annot) :
    (securityFromContext meth).map (fun alt => alt.map (·.name)) = (getAll meth "Security").map fun a => [a.value] := by
  rw [securityFromContext, List.map_map]; rfl

/-- **C04 end to end (source → document / router)**: for a route reduced from ANY annotation lists, what the
    document states (`docSecurity`, which falls back to the configured default) is what the router enforces
    (`enforcedSecurity`) — the emitters' fallback can only fire when the reducer already applied it. -/
theorem source_doc_eq_enforced (meth ctrl : List Annot) (cfg : Cfg) (r : Route)
    (hr : r.security = routeSecurity meth (controllerSecurity ctrl cfg.defaultSecurity)) :
    docSecurity cfg r = enforcedSecurity r :=
  doc_eq_enforced_of_imp cfg r fun h => ((effective_empty_iff meth ctrl _).1 (hr ▸ h)).2.2

theorem of_reduceParam_eq_some {meth : List Annot} {p : MParam} {rp : RParam} (h : reduceParam meth p = some rp) :
    isContextType p.type = true ∧ rp = ⟨p.name, true, "", "", "", ""⟩ ∨
    ∃ a loc, findFirstByValue meth p.name = some a ∧ passedInOf meth p.name = some (.ok loc) ∧ rp = mkParam p a loc := by
  revert h
  fun_cases reduceParam meth p with
  | case1 hc => exact fun h => Or.inl ⟨hc, (Option.some.inj h).symm⟩
  | case2 | case4 => nofun
  | case3 _ a loc hl ha => exact fun h => Or.inr ⟨a, loc, ha, hl, (Option.some.inj h).symm⟩

theorem mkParam_passedIn {p : MParam} {a : Annot} {loc : PassedIn} : (mkParam p a loc).passedIn = "path" ↔ loc = .path := by
  cases loc <;> simp [mkParam, passedInName]

theorem mkParam_validator {p : MParam} {a : Annot} {loc : PassedIn} :
    (mkParam p a loc).validator.toList =
      appendRequired (strProp a "validate").toList (p.type.startsWith "*") (loc = .path) := by
  rw [mkParam, String.toList_ofList]

theorem of_reduceRoute_eq_some {parent : Security} {m : Method} {rr : RRoute} (h : reduceRoute parent m = some rr) :
    (∀ p ∈ m.params, (reduceParam m.annots p).isSome = true) ∧
    rr.params = m.params.filterMap (reduceParam m.annots) ∧ rr.path = firstValueOrEmpty m.annots "Route" := by
  revert h
  fun_cases reduceRoute parent m with
  | case1 => nofun
  | case2 ps hany =>
    intro h
    cases h
    exact ⟨fun p hp => Option.isSome_iff_ne_none.2 fun hn =>
        hany (List.any_eq_true.2 ⟨_, List.mem_map_of_mem hp, by rw [hn]; rfl⟩),
      by simp only [ps, List.filterMap_map, Function.id_comp], rfl⟩

/-- a reduced parameter keeps the Go name of the parameter it was reduced from -/
theorem reduceParam_name (meth : List Annot) (p : MParam) (rp : RParam) (h : reduceParam meth p = some rp) : rp.name = p.name := by
  rcases of_reduceParam_eq_some h with ⟨-, rfl⟩ | ⟨a, loc, -, -, rfl⟩ <;> rfl

theorem filterMap_names (meth : List Annot) (l : List MParam) (h : ∀ p ∈ l, (reduceParam meth p).isSome = true) :
    (l.filterMap (reduceParam meth)).map (·.name) = l.map (·.name) := by
  induction l with
  | nil => rfl
  | cons p rest ih =>
    obtain ⟨rp, hr⟩ := Option.isSome_iff_exists.1 (h p (by simp))
    rw [List.filterMap_cons_some hr, List.map_cons, List.map_cons, reduceParam_name meth p rp hr,
      ih fun q hq => h q (List.mem_cons_of_mem _ hq)]

/-- the reduced parameters carry the parameter names of the signature, in signature order -/
theorem reduceRoute_param_names {parent : Security} {m : Method} {rr : RRoute} (h : reduceRoute parent m = some rr) :
    rr.params.map (·.name) = m.params.map (·.name) := by
  obtain ⟨hall, hps, -⟩ := of_reduceRoute_eq_some h
  rw [hps, filterMap_names m.annots m.params hall]

/-- non-vacuity: a default with EMPTY scopes protects an unannotated route; @Hidden with a value hides -/
example : routeSecurity [⟨"Method", "GET", [], ""⟩] (controllerSecurity [⟨"Tag", "T", [], ""⟩] (some ⟨"sec0", []⟩)) = [[⟨"sec0", []⟩]] := by
  decide +kernel
example : hidden [⟨"Method", "GET", [], ""⟩, ⟨"Hidden", "internal", [], ""⟩] = true := by decide +kernel

end Gleece.Reduce
