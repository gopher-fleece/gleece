/-
  C03 — No controller code runs unless the route's effective security approved it.

  Model: `Gleece/Model/Router.lean` (`handlerOf`, `authorize`, `runList`, `exec`).  Ties: (static) the
  go/ast extraction of every rendered routes file is compared with `handlerOf` for all five engines, and
  the shape of the rendered `authorize()` (loop over lists, loop over checks, break on refusal, nil on
  the first clean list, last error otherwise) is checked on every run; (dynamic) the compiled routers
  are driven with scripted authorization callbacks (`rig` stream).  `effective_def` is in C04.lean.
-/
import Gleece.Lemmas.Router
namespace Gleece.Router
open Gleece.IR

/-- **Gate first, for every route of every controller**: the authorization call and its guard are the
    first two steps of the handler; InitController, parameter parsing, validators and the operation all
    come after the guard. -/
theorem gateFirst_handlerOf (c : Controller) (r : Route) : gateFirst (handlerOf c r) = true := by
  have hp : (r.params.flatMap paramSteps).all Step.notGate = true :=
    List.all_eq_true.2 fun s hs => by cases s <;> first | rfl | cases isParam_of_mem_paramSteps hs
  rw [handlerOf_eq, gateFirst, List.all_cons, List.all_cons, List.all_append, hp]
  rfl

/-! ### `authorize()` for every callback (stateful, adversarial) -/

/-- every check of the list was asked in order and approved, starting from history `hist` -/
def approvesAll (cb : Callback) : List Check → List Check → Prop
  | _, [] => True
  | hist, c :: cs => cb hist c = none ∧ approvesAll cb (hist ++ [c]) cs

theorem runList_none_iff (cb : Callback) (hist : List Check) (l : List Check) :
    (runList cb hist l).1 = none ↔ approvesAll cb hist l := by
  fun_induction runList cb hist l with
  | case1 => exact ⟨fun _ => trivial, fun _ => rfl⟩
  | case2 hist c cs e he => exact ⟨nofun, fun h => nomatch h.1.symm.trans he⟩
  | case3 hist c cs hc ih => rw [approvesAll, ih]; exact (and_iff_right hc).symm

/-- **`authorize`, exactly**: it approves iff nothing was to be asked, or some alternative is approved check by
    check at the history reached when its turn comes (the history `authorize` leaves after the alternatives before it) -/
theorem authorize_eq_none_iff (cb : Callback) (lists : List (List Check)) (last : Option String) (hist : List Check) :
    (authorize cb hist last lists).1 = none ↔
      (lists = [] ∧ last = none) ∨
      ∃ pre l post, lists = pre ++ l :: post ∧ approvesAll cb (authorize cb hist last pre).2 l := by
  fun_induction authorize cb hist last lists with
  | case1 hist last => exact ⟨fun h => Or.inl ⟨rfl, h⟩, fun h => h.elim And.right fun ⟨pre, _, _, h, _⟩ => by cases pre <;> cases h⟩
  | case2 hist last l ls hist' hr =>
    exact ⟨fun _ => Or.inr ⟨[], l, ls, rfl, (runList_none_iff cb hist l).1 (congrArg Prod.fst hr)⟩, fun _ => rfl⟩
  | case3 hist last l ls e hist' hr ih =>
    have hl : ¬ approvesAll cb hist l := fun ha => nomatch ((runList_none_iff cb hist l).2 ha).symm.trans (congrArg Prod.fst hr)
    have hc pre : authorize cb hist last (l :: pre) = authorize cb hist' (some e) pre := by rw [authorize, hr]
    rw [ih]
    constructor
    · rintro (⟨_, h⟩ | ⟨pre, l', post, rfl, ha⟩)
      · cases h
      · exact Or.inr ⟨l :: pre, l', post, rfl, hc pre ▸ ha⟩
    · rintro (⟨h, _⟩ | ⟨pre, l', post, h, ha⟩)
      · cases h
      · cases pre with
        | nil => cases h; exact absurd ha hl
        | cons p pre => cases h; exact Or.inr ⟨pre, l', post, rfl, hc pre ▸ ha⟩

/-- **Approval means some alternative was fully approved** (or there was none to ask). -/
theorem authorize_none (cb : Callback) (hist : List Check) (lists : List (List Check))
    (h : (authorize cb hist none lists).1 = none) :
    lists = [] ∨ ∃ l ∈ lists, ∃ h0, approvesAll cb h0 l :=
  ((authorize_eq_none_iff cb lists none hist).1 h).imp And.left
    fun ⟨_, l, _, hl, ha⟩ => ⟨l, hl ▸ List.mem_append_right _ List.mem_cons_self, _, ha⟩

/-- **Refusal means every alternative was refused**, and there was at least one. -/
theorem authorize_some (cb : Callback) (hist : List Check) (lists : List (List Check)) (e : String)
    (h : (authorize cb hist none lists).1 = some e) :
    lists ≠ [] ∧ ∀ l ∈ lists, ∃ h0, ¬ approvesAll cb h0 l := by
  have hn := mt (authorize_eq_none_iff cb lists none hist).2 (h ▸ Option.some_ne_none e)
  refine ⟨fun hl => hn (Or.inl ⟨hl, rfl⟩), fun l hl => ?_⟩
  obtain ⟨pre, post, rfl⟩ := List.append_of_mem hl
  exact ⟨_, fun ha => hn (Or.inr ⟨pre, l, post, rfl, ha⟩)⟩

/-- no security alternatives: approved without asking anything (the property allows this only when
    method, controller and default security are all absent — `effective_empty_iff`) -/
theorem authorize_empty (cb : Callback) (hist : List Check) : authorize cb hist none [] = (none, hist) := rfl

/-! ### the handler against the callback -/

def isControllerEvent : Event → Bool
  | .controllerStep _ => true
  | _ => false

/-- what a gate-first handler does: ask the callback; on refusal answer with the refusal and run nothing
    else; on approval run the remaining steps -/
theorem exec_gateFirst (cb : Callback) (lists : Security) (rest : List Step)
    (h : gateFirst (.auth lists :: .guard :: rest) = true) :
    exec cb (.auth lists :: .guard :: rest) =
      (authorize cb [] none (lists.map checksOf)).2.map Event.asked ++
      (match (authorize cb [] none (lists.map checksOf)).1 with
       | some e => [Event.refused e]
       | none => rest.map Event.controllerStep) := by
  show _ ++ exec.go cb _ (.guard :: rest) = _
  cases (authorize cb [] none (lists.map checksOf)).1 with
  | some e => rfl
  | none => exact congrArg _ (exec_go_no_auth cb none rest h)

theorem exec_handlerOf (cb : Callback) (c : Controller) (r : Route) :
    exec cb (handlerOf c r) =
      (authorize cb [] none ((enforcedSecurity r).map checksOf)).2.map Event.asked ++
      (match (authorize cb [] none ((enforcedSecurity r).map checksOf)).1 with
       | some e => [Event.refused e]
       | none => ((handlerOf c r).drop 2).map Event.controllerStep) :=
  exec_gateFirst cb _ _ (gateFirst_handlerOf c r)

/-- **the controller is reached only through the gate**: some parsing / controller step runs exactly when
    `authorize` approved -/
theorem controller_iff_approved (cb : Callback) (c : Controller) (r : Route) :
    (exec cb (handlerOf c r)).any isControllerEvent =
      (authorize cb [] none ((enforcedSecurity r).map checksOf)).1.isNone := by
  have hask (l : List Check) : l.any (isControllerEvent ∘ Event.asked) = false :=
    List.any_eq_false.2 fun _ _ => Bool.false_ne_true
  rw [exec_handlerOf, List.any_append, List.any_map, hask, Bool.false_or]
  cases (authorize cb [] none ((enforcedSecurity r).map checksOf)).1 with
  | some e => rfl
  | none => rw [handlerOf_eq]; rfl

/-- **No controller code unless approved.**  For every route, every callback: if any parsing or
    controller step runs, `authorize` approved, hence (`authorize_none`) the route has no effective
    security or some alternative was approved check by check. -/
theorem controller_only_if_approved (cb : Callback) (c : Controller) (r : Route)
    (h : (exec cb (handlerOf c r)).any isControllerEvent = true) :
    (authorize cb [] none ((enforcedSecurity r).map checksOf)).1 = none :=
  Option.isNone_iff_eq_none.1 ((controller_iff_approved cb c r).symm.trans h)

/-- **Refused: the controller is not invoked and the response carries the refusal.** -/
theorem refused_no_controller (cb : Callback) (c : Controller) (r : Route) (e : String)
    (h : (authorize cb [] none ((enforcedSecurity r).map checksOf)).1 = some e) :
    (exec cb (handlerOf c r)).any isControllerEvent = false ∧
    (exec cb (handlerOf c r)).getLast? = some (Event.refused e) := by
  rw [controller_iff_approved, exec_handlerOf, h]
  exact ⟨rfl, List.getLast?_concat ..⟩

/-! ### non-vacuity: an adversarial, history-dependent callback -/
private def flaky : Callback := fun hist c => if hist.length % 2 = 0 && c.scheme = "a" then some "no" else none
example : (authorize flaky [] none [[⟨"a", []⟩], [⟨"a", []⟩, ⟨"b", []⟩]]).1 = none := by decide +kernel
example : (authorize flaky [] none [[⟨"a", []⟩]]).1 = some "no" := by decide +kernel

end Gleece.Router
