/-
  C12 — The five generated routers are behaviourally interchangeable.

  What is proved: the handler model has NO engine parameter — the five template sets are shown, on every
  run, to render one and the same engine-erased step list (`checkRouter`, property C12: five-way
  comparison of the go/ast extractions plus comparison with `handlerOf`), the five `authorize()` copies
  have the same shape, and the five URL converters denote the same set of served paths up to the
  `{x}`/`:x` spelling.  Given that, equal framework inputs give equal outcomes
  (`Serve.interchangeable_of_accessors_agree`).
  What is NOT provable here: `AccessorsAgree` — that gin, echo, mux, chi and fiber hand the handler the
  same raw strings and presence bits and dispatch the same requests; that is what the dynamic five-way
  `rig` stream samples.
-/
import Gleece.Model.Router
namespace Gleece.Router
open Gleece.IR

/-- path parameters are spelled `:x` on three engines and `{x}` on two; apart from that the registered
    template is the same function of the annotated routes -/
theorem urlConv_classes :
    engineUrlConv .gin = engineUrlConv .echo ∧ engineUrlConv .echo = engineUrlConv .fiber ∧
    engineUrlConv .mux = engineUrlConv .chi := by decide

/-- every location is readable on every engine: each accessor table has a value accessor for Path, Query,
    Header and Form -/
theorem accessors_cover : ∀ e ∈ allEngines, ∀ loc ∈ ["Path", "Query", "Header", "Form"],
    (accessorTable e).any (fun row => row.2.1 = loc && row.2.2 = AccessKind.value) = true := by decide +kernel

end Gleece.Router
