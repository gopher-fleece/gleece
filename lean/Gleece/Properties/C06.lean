/-
  C06 — Documented parameters, bodies and responses equal the declared method signature.
-/
import Gleece.Properties.Reduce
import Gleece.Lemmas.Assoc
import Gleece.Lemmas.Split
namespace Gleece.IR
open Gleece.Text Gleece.Assoc

theorem isFieldRequired_requiredTok : isFieldRequired requiredTok = true := by decide

/-- a validator string is a comma-separated list: `required` may stand on either side of a comma -/
theorem isFieldRequired_append (a b : Str) :
    isFieldRequired (a ++ ',' :: b) = (isFieldRequired a || isFieldRequired b) := by
  simp only [isFieldRequired, splitOn_append_sep, List.contains_eq_mem, List.mem_append, Bool.decide_or]

/-- **Requiredness rule**, for EVERY validator string `v`: after the reducer's
    `appendParamRequiredValidation`, a parameter is documented (and validated) as required iff it is a
    non-pointer, a path parameter, or was explicitly validated as required. -/
theorem required_rule (v : Str) (isPtr isPath : Bool) :
    isFieldRequired (appendRequired v isPtr isPath) = (!isPtr || isPath || isFieldRequired v) := by
  -- unless the parameter is a pointer outside the path, it is required whatever `v` says
  have forced (h : ¬(isPtr && !isPath) = true) : (!isPtr || isPath || isFieldRequired v) = true := by
    cases isPtr <;> cases isPath <;> first | rfl | exact absurd rfl h
  fun_cases appendRequired v isPtr isPath with
  | case1 h => rw [Bool.and_eq_true, Bool.not_eq_true'] at h; rw [h.1, h.2]; rfl
  | case2 h => rw [forced h]; exact isFieldRequired_requiredTok
  | case3 h _ hc => rw [forced h]; exact hc
  | case4 h => rw [forced h, isFieldRequired_append, isFieldRequired_requiredTok, Bool.or_true]

/-- the `parameters` of an operation are the non-context path/query/header parameters, under their wire
    names, in signature order -/
theorem docParams_names (r : Route) :
    (docParams r).map (·.name) =
      (r.params.filter fun p => !p.isContext && p.passedIn ≠ "Body" && p.passedIn ≠ "Form").map (·.nameInSchema) := by
  rw [docParams, List.map_map]; rfl

/-- **Context parameters never appear**, nor do body / form parameters, among `parameters`. -/
theorem mem_docParams (r : Route) (s : ParamSig) :
    s ∈ docParams r ↔ ∃ p ∈ r.params, p.isContext = false ∧ p.passedIn ≠ "Body" ∧ p.passedIn ≠ "Form" ∧
      s = ⟨p.nameInSchema, lowerLoc p.passedIn, isFieldRequired p.validator.toList, p.type.name, p.deprecated⟩ := by
  simp only [docParams, List.mem_map, List.mem_filter, Bool.and_eq_true, Bool.not_eq_true', decide_not,
    decide_eq_false_iff_not, ne_eq, and_assoc, eq_comm (b := s)]

theorem docParams_sound (r : Route) (s : ParamSig) (h : s ∈ docParams r) :
    ∃ p ∈ r.params, p.isContext = false ∧ p.passedIn ≠ "Body" ∧ p.passedIn ≠ "Form" ∧
      s.name = p.nameInSchema ∧ s.loc = lowerLoc p.passedIn ∧ s.typeName = p.type.name ∧
      s.required = isFieldRequired p.validator.toList := by
  obtain ⟨p, hp, h1, h2, h3, rfl⟩ := (mem_docParams r s).1 h
  exact ⟨p, hp, h1, h2, h3, rfl, rfl, rfl, rfl⟩

theorem docParams_complete (r : Route) (p : Param) (hp : p ∈ r.params) (h1 : p.isContext = false)
    (h2 : p.passedIn ≠ "Body") (h3 : p.passedIn ≠ "Form") :
    (⟨p.nameInSchema, lowerLoc p.passedIn, isFieldRequired p.validator.toList, p.type.name, p.deprecated⟩ : ParamSig) ∈ docParams r :=
  (mem_docParams r _).2 ⟨p, hp, h1, h2, h3, rfl⟩

/-- **The success response**: listed under the success code with the value type's schema when the method
    returns a value and without content otherwise. -/
theorem success_response (r : Route) : get? (docResponses r) r.successCode = some (valueTypeName r) := by
  rw [docResponses, get?_setAll_nil, List.reverse_append]
  simp [get?_cons]

/-- **Each `@ErrorResponse` code is listed** with the error type's schema (`error` ↦ Rfc7807Error),
    unless it coincides with the success code. -/
theorem error_response (r : Route) (e : ErrResp) (he : e ∈ r.errorResponses) (hne : e.code ≠ r.successCode) :
    get? (docResponses r) e.code = some (some (errTypeName r)) := by
  rw [docResponses, get?_setAll_nil, List.reverse_append, List.reverse_singleton, List.singleton_append,
    get?_cons, if_neg (Ne.symm hne)]
  -- the code is bound, and every binding of an error code has this value
  have hk : e.code ∈ ((r.errorResponses.map fun e => (e.code, some (errTypeName r))).reverse).map (·.1) := by
    rw [← List.map_reverse, List.map_map]; exact List.mem_map.2 ⟨e, List.mem_reverse.2 he, rfl⟩
  obtain ⟨v, hv⟩ := Option.isSome_iff_exists.1 (get?_isSome.2 hk)
  obtain ⟨e', _, he'⟩ := List.mem_map.1 (List.mem_reverse.1 (mem_of_get? hv))
  exact (Prod.mk.inj he').2 ▸ hv

/-- value type: `(T, error)` documents `T`; a lone `error` documents no content -/
theorem valueType_cases (r : Route) :
    (r.responses.length ≤ 1 → valueTypeName r = none) ∧
    (∀ t e, r.responses = [t, e] → valueTypeName r = some t.name) :=
  ⟨fun h => if_pos h, fun t e h => by rw [valueTypeName, h]; rfl⟩

/-! ### non-vacuity -/
example : isFieldRequired (appendRequired "gt=1".toList false false) = true := by decide +kernel
example : isFieldRequired (appendRequired "gt=1".toList true false) = false := by decide +kernel
example : isFieldRequired (appendRequired "notrequired".toList true false) = false := by decide +kernel


section Reduced
open Gleece.Reduce Gleece.Validate

/-- **C06 — requiredness after reduction**: for every written validator string, a reduced (non-context)
    parameter validates as required iff it is a non-pointer, a path parameter, or was written `required`. -/
theorem reduced_param_required (meth : List Annot) (p : MParam) (r : RParam) (a : Annot) (loc : PassedIn)
    (hctx : isContextType p.type = false)
    (ha : findFirstByValue meth p.name = some a) (hl : passedInOf meth p.name = some (.ok loc))
    (h : reduceParam meth p = some r) :
    ∃ written : String, isFieldRequired r.validator.toList =
      (!(p.type.startsWith "*") || decide (loc = .path) || isFieldRequired written.toList) := by
  rcases of_reduceParam_eq_some h with ⟨hc, -⟩ | ⟨a', loc', ha', hl', rfl⟩
  · rw [hctx] at hc; cases hc
  · cases ha.symm.trans ha'
    cases hl.symm.trans hl'
    exact ⟨strProp a "validate", by rw [mkParam_validator]; exact required_rule _ _ _⟩

end Reduced

end Gleece.IR
