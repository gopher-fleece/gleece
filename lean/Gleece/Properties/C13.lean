/-
  C13 — Output is a deterministic function of project and configuration.

  What varies between runs of the real program is ORDER: the iteration order of `facade.files`
  (file visiting), of the symbol graph's node map (`FindByKind`), of `packages.Load`, of sets.
  Proved: sorting makes the visiting order a function of the SET of files (any two enumerations of the
  same files are sorted to the same list), hence the import serials — assigned on first use while
  reducing in that order — are the same in every run; the spec emitters have no engine parameter.
  Decided on the call skeletons regenerated from the source on every run: the sorts exist and sit after
  the map iterations they canonicalise.  Tied by the `proj` stream: five brand-new sessions per project
  (config load, pipeline, routes, spec) must produce ONE byte content per artifact, the spec must not
  change with the engine, and the dated routes file may differ from the undated one only in the date line.
  The same for sorting by the pipeline's own comparators (`lexLe_*`, `sorted_canonical`, the comparator table) is in
  `Properties/SortDet.lean`.
-/
import Gleece.Lemmas.Session
import Gleece.Model.Order
import Gleece.Model.IR
namespace Gleece.Session

/-- **Any two enumerations of the same files are visited in the same order.** -/
theorem visit_order_deterministic (σ σ' : List Nat) (h : σ.Perm σ') : sortNat σ = sortNat σ' :=
  sorted_perm_eq (sortNat_sorted σ) (sortNat_sorted σ') ((sortNat_perm σ).trans (h.trans (sortNat_perm σ').symm))

/-- **Import serials do not depend on the enumeration order**: they are handed out on first use while
    walking the sorted order, whatever keys (`keysMet`) each visited item contributes. -/
theorem serials_deterministic (σ σ' : List Nat) (h : σ.Perm σ') (keysMet : List Nat → List Nat) :
    runKeys {} (keysMet (sortNat σ)) = runKeys {} (keysMet (sortNat σ')) := by
  rw [visit_order_deterministic σ σ' h]

end Gleece.Session

namespace Gleece.Order

/-- the sorts are in place, after the map iterations they canonicalise -/
theorem sorts_in_place :
    (let evs := eventsOf "core/arbitrators/packages.facade.go:GetAllSourceFiles"
     -- the map is ranged over BEFORE the sort and the result is built from the sorted names after it
     sortedBetweenRanges evs "facade.files" "slices.Sort" "fileNames" = true) ∧
    (let evs := eventsOf "core/pipeline/pipeline.go:getControllers"
     before evs "p.symGraph.FindByKind" "slices.SortFunc" = true) ∧
    (let evs := eventsOf "core/pipeline/pipeline.go:getReducedControllers"
     before evs "p.reduceControllers" "slices.SortFunc" = true) ∧
    (let evs := eventsOf "core/pipeline/pipeline.go:getModels"
     before evs "symboldg.ComposeStructs" "slices.SortFunc" = true) := by
  decide +kernel

end Gleece.Order

/- That the document does not depend on the routing engine is not a theorem here (the spec model simply has no
   engine argument, which proves nothing about the code): the check renders the document under all five
   engines in fresh sessions and counts the distinct byte strings (`specDistinctAcrossEngines`). -/
