/-
  C14 — Every run terminates with success or a reported error, never a crash or hang.

  Partial by nature.  PROVED here:
  * crash-freedom of the two validator-tag converters for EVERY tag string: the table of rules
    (`Gleece/Generated/ValidationRules.lean`, regenerated with go/ast from both converters on every run)
    records, per rule, which parser reads the value and whether its nil-able result is dereferenced
    without a check; no row is, and the 3.0 converter returns before touching a nil `schema.Value`;
  * termination of every loop the models contain: all definitions in `Gleece/Model/` are total (no
    `partial`), including the `for strings.Contains(p,"//")` loop (`Gleece.Paths.collapse`, decreasing
    length), the eviction cascade (fuel), the annotation matcher and `UnwrapArrayTypeString`.
  EXPLORED, not proved (go/packages, raymond, kin-openapi, libopenapi, the visitors on arbitrary Go):
  the real emitters and routers on generated IR with arbitrary / malformed validator tags (`ir` stream,
  `VH_BAD_VALIDATORS`), and the real CLI in a child process on generated projects (`cli` stream).
-/
import Gleece.Generated.ValidationRules
import Gleece.Generated.CliCommands
import Gleece.Model.Cli
import Gleece.Model.Paths
import Gleece.Model.IR
import Gleece.Model.Order
namespace Gleece.Crash

inductive Outcome | ok | crash
deriving DecidableEq, Repr

/-- a rule row against a value: Go panics exactly when the parser returns nil and the result is
    dereferenced unchecked -/
def applyRow (row : String × String × String × Bool) (parserReturnsNil : Bool) : Outcome :=
  if row.2.2.2 && parserReturnsNil then .crash else .ok

/-- **No rule of either converter can crash on its value**, whatever the value is (parsable or not). -/
theorem convert_no_crash : ∀ row ∈ Gleece.Generated.validationRules, ∀ nil? : Bool, applyRow row nil? = .ok := by
  decide +kernel

/-- the 3.0 converter never touches the value of an unresolved `$ref` -/
theorem nil_value_guarded : Gleece.Generated.nilValueGuard30 = true := by decide

/-- … and the 3.1 converter never touches a nil schema (a reference proxy, e.g. an enum-typed form field) -/
theorem nil_schema_guarded : Gleece.Generated.nilSchemaGuard31 = true := by decide

/-- every rule name the generators use has a row for both emitters (a rule missing from one converter
    would silently document different constraints: see C11) -/
theorem both_emitters_know_the_rules :
    ∀ r ∈ ["gt", "gte", "lt", "lte", "min", "max", "len", "minItems", "maxItems", "uniqueItems", "email", "uuid", "pattern", "enum", "oneof"],
      (Gleece.Generated.validationRules.any fun row => row.1 = "3.0" && row.2.1 = r) = true ∧
      (Gleece.Generated.validationRules.any fun row => row.1 = "3.1" && row.2.1 = r) = true := by
  decide +kernel

/-- `common.UnwrapArrayTypeString`: the `for { TrimPrefix "[]" }` loop, structurally -/
def unwrapArray : List Char → List Char
  | '[' :: ']' :: r => unwrapArray r
  | r => r

theorem unwrapArray_idem (s : List Char) : unwrapArray (unwrapArray s) = unwrapArray s := by
  fun_induction unwrapArray s with
  | case1 r ih => exact ih
  | case2 r h =>
    unfold unwrapArray
    split
    · rename_i r'; exact absurd rfl (h r')
    · rfl

end Gleece.Crash

/-! ### the command-line wrappers: a failure of the generation function is the run's exit status -/
namespace Gleece.Cli

/-- under a wrapper that propagates the failure the run's contract IS the function's: a failure exits 1 and is
    reported, a success exits 0 and owes the same artifacts -/
theorem contract_wrap (c : Cmd) (f : FnResult) : Contract c (wrap true f) = FnContract c f := by
  obtain ⟨failed, spec, routes⟩ := f
  cases failed <;> rfl

/-- a wrapper that propagates the failure turns the function's contract into the run's contract -/
theorem wrap_contract (c : Cmd) (f : FnResult) (h : FnContract c f = true) : Contract c (wrap true f) = true :=
  (contract_wrap c f).trans h

/-- … and one that does not propagate it breaks the contract on EVERY failing run of a GENERATING command: exit 0
    without the artifacts (`dump` leaves no artifact the contract could miss) -/
theorem wrap_without_propagation_breaks (c : Cmd) (hc : c ≠ .dump) (f : FnResult) (hf : f.failed = true) (hs : f.spec = false) (hr : f.routes = false) :
    Contract c (wrap false f) = false := by
  unfold Contract wrap
  rw [hf, hs, hr]
  cases c with
  | dump => exact absurd rfl hc
  | _ => rfl

/-- **Every command of the program that calls a generation entry point propagates its failure** (regenerated from
    cmd/*.go on every run: `os.Exit(<non-zero>)` in the `if err != nil` block, or `return err` from a `RunE`) -/
theorem every_generating_command_propagates :
    ∀ row ∈ Gleece.Generated.cliCommands, row.2.2.1 = true → row.2.2.2 = true := by decide +kernel

/-- the four ways of asking for generation are all there -/
theorem generating_commands_present :
    ∀ u ∈ ["gleece", "spec", "routes", "spec-and-routes"],
      (Gleece.Generated.cliCommands.any fun row => row.2.1 = u && row.2.2.1) = true := by decide +kernel

end Gleece.Cli

namespace Gleece.Order

/-- **a failed write is a failed run**: in the functions that write the artifacts, `os.MkdirAll` and `os.WriteFile` are
    each followed by an error guard that RETURNS the error (a guard that only logs would let the command report
    success with nothing written - what the `FnContract` of `Gleece.Cli` forbids), and every generation function of
    the entry points returns what the generators return -/
theorem write_failures_are_returned :
    (let evs := eventsOf "generator/routes/generator.go:GenerateRoutes"
     guarded evs "os.MkdirAll" = true ∧ guarded evs "os.WriteFile" = true ∧ failureSwallowed evs "os.WriteFile" = false) ∧
    (let evs := eventsOf "generator/swagen/spec_manager.go:OutputSpec"
     guarded evs "os.MkdirAll" = true ∧ guarded evs "os.WriteFile" = true ∧ failureSwallowed evs "os.WriteFile" = false) ∧
    (let evs := eventsOf "generator/swagen/spec_manager.go:GenerateAndOutputSpec"
     guarded evs "GenerateSpec" = true) := by
  decide +kernel

end Gleece.Order
