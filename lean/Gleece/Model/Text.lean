/-
  Text helpers over `List Char` (DESIGN Appendix A.1).

  Model definitions that theorems mention never use the `String` API; text is
  `List Char`, converted at the driver boundary only.  Each helper mirrors the Go
  `strings` function named in its comment.
-/
namespace Gleece.Text

abbrev Str := List Char

/-- `strings.Split(s, string(sep))` for a one-character separator. -/
def splitOn (sep : Char) : Str → List Str
  | [] => [[]]
  | c :: t =>
    if c = sep then [] :: splitOn sep t
    else match splitOn sep t with
      | h :: r => (c :: h) :: r
      | [] => [[c]]

/-- `strings.Join(parts, string(sep))`. -/
def joinWith (sep : Char) : List Str → Str
  | [] => []
  | [a] => a
  | a :: b :: r => a ++ sep :: joinWith sep (b :: r)

/-- `strings.HasPrefix`. -/
def hasPrefix : Str → Str → Bool
  | _, [] => true
  | [], _ :: _ => false
  | c :: s, d :: p => c == d && hasPrefix s p

/-- `strings.HasSuffix`. -/
def hasSuffix (s p : Str) : Bool := hasPrefix s.reverse p.reverse

/-- Drop leading characters satisfying `f` (`strings.TrimLeftFunc`). -/
def trimLeftBy (f : Char → Bool) : Str → Str
  | [] => []
  | c :: t => if f c then trimLeftBy f t else c :: t

/-- `strings.TrimRightFunc`. -/
def trimRightBy (f : Char → Bool) (s : Str) : Str := (trimLeftBy f s.reverse).reverse

/-- Unicode white space as far as Go's `unicode.IsSpace` is concerned for Latin-1,
    plus the common wide ones; used for `strings.TrimSpace` / regex `\s` (ASCII only for
    the regex, see `isReSpace`). -/
def isGoSpace (c : Char) : Bool :=
  let n := c.toNat
  (0x09 ≤ n && n ≤ 0x0d) || n = 0x20 || n = 0x85 || n = 0xa0 || n = 0x1680 ||
  (0x2000 ≤ n && n ≤ 0x200a) || n = 0x2028 || n = 0x2029 || n = 0x202f || n = 0x205f || n = 0x3000

/-- `strings.TrimSpace`. -/
def trimSpace (s : Str) : Str := trimRightBy isGoSpace (trimLeftBy isGoSpace s)

/-- RE2 `\s` : `[\t\n\f\r ]`. -/
def isReSpace (c : Char) : Bool := c = ' ' || c = '\t' || c = '\n' || c = '\x0c' || c = '\r'

/-- RE2 `\w` : `[0-9A-Za-z_]`. -/
def isReWord (c : Char) : Bool :=
  ('0' ≤ c && c ≤ '9') || ('A' ≤ c && c ≤ 'Z') || ('a' ≤ c && c ≤ 'z') || c = '_'

/-- Does `s` contain `p` as a contiguous substring (`strings.Contains`). -/
def contains : Str → Str → Bool
  | [], p => p.isEmpty
  | c :: s, p => hasPrefix (c :: s) p || contains s p

/-- number of UTF-8 bytes of a character -/
def utf8Len (c : Char) : Nat :=
  if c.toNat < 0x80 then 1 else if c.toNat < 0x800 then 2 else if c.toNat < 0x10000 then 3 else 4

def utf8Size (s : Str) : Nat := (s.map utf8Len).sum

/-- `strconv.ParseUint(s, 10, _)` without the size check: one or more ASCII digits, nothing else (no sign, no `_`
    separators - which Lean's own `String.toNat?` accepts - no other scripts' digits) -/
def parseUint (s : String) : Option Nat :=
  let cs := s.toList
  if cs.isEmpty || !cs.all (fun c => decide (48 ≤ c.toNat) && decide (c.toNat ≤ 57)) then none
  else some (cs.foldl (fun n c => n * 10 + (c.toNat - 48)) 0)

end Gleece.Text
