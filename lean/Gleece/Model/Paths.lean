/-
  C15 — model of `core/validators/paths/paths.go` (`FindConflicts`).

  The pointer trie of the Go code is modelled as what it denotes (DESIGN Appendix B.1):
  a trie node is addressed by its *trie path* (`List TSeg`; every `{…}` segment goes to the
  single param child), and the only content that matters is which entries are *registered*
  (stored in `endpoint[verb]` of the node their trie path addresses).  `collectEndpointsByMethod`
  on the node at trie path `p` is then "registered entries with that verb whose trie path has
  prefix `p`".  The correspondence check compares this model with the real code on the exact
  output (pairs of entry identities, reason strings, order).
-/
import Gleece.Model.Text
namespace Gleece.Paths
open Gleece.Text

/-! ### `normalizePath` / `splitSegments` -/

/-- `strings.Contains(p, "//")` -/
def hasDD : Str → Bool
  | [] => false
  | [_] => false
  | c :: d :: t => (c = '/' && d = '/') || hasDD (d :: t)

/-- one call of `strings.ReplaceAll(p, "//", "/")` (non-overlapping, left to right) -/
def replaceDD : Str → Str
  | [] => []
  | [c] => [c]
  | c :: d :: t => if c = '/' ∧ d = '/' then '/' :: replaceDD t else c :: replaceDD (d :: t)

theorem replaceDD_length_le (s : Str) : (replaceDD s).length ≤ s.length := by
  fun_induction replaceDD s with
  | case1 | case2 => exact Nat.le_refl _
  | case3 c d t _ ih => exact Nat.succ_le_succ (Nat.le_succ_of_le ih)
  | case4 c d t _ ih => exact Nat.succ_le_succ ih

theorem replaceDD_length_lt (s : Str) (h : hasDD s = true) : (replaceDD s).length < s.length := by
  fun_induction replaceDD s with
  | case1 | case2 => cases h
  | case3 c d t hc ih => exact Nat.lt_succ_of_le (Nat.succ_le_succ (replaceDD_length_le t))
  | case4 c d t hc ih => exact Nat.succ_lt_succ (ih (by simpa [hasDD, hc] using h))

/-- `for strings.Contains(p, "//") { p = strings.ReplaceAll(p, "//", "/") }` — the loop terminates
    because every iteration strictly shortens `p`. -/
def collapse (p : Str) : Str :=
  if h : hasDD p = true then collapse (replaceDD p) else p
termination_by p.length
decreasing_by exact replaceDD_length_lt p h

/-- `strings.TrimRight(p, "/")` -/
def trimRightSlash (p : Str) : Str := trimRightBy (· = '/') p

def normalizePath (p : Str) : Str :=
  if p = [] then ['/'] else
  let p := if p.head? = some '/' then p else '/' :: p
  let p := collapse p
  if p.length > 1 ∧ p.getLast? = some '/' then trimRightSlash p else p

def splitSegments (p : Str) : List Str :=
  if p = ['/'] then [] else
  let p := if p.head? = some '/' then p.tail else p
  if p = [] then [] else splitOn '/' p

def isParamSegment (seg : Str) : Bool := seg.head? = some '{' && seg.getLast? = some '}'

/-- `patternsConflict`; this is also the property's own definition of "can match a common
    concrete path": equal segment counts and, position by position, equal segments or at least
    one parameter. -/
def patternsConflict : List Str → List Str → Bool
  | [], [] => true
  | a :: as, b :: bs => (a = b || isParamSegment a || isParamSegment b) && patternsConflict as bs
  | _, _ => false

/-! ### entries, trie paths -/

structure Entry where
  id   : Nat
  verb : String
  path : String
deriving DecidableEq, Repr, Inhabited

def Entry.segs (e : Entry) : List Str := splitSegments (normalizePath e.path.toList)

/-- a segment as the trie sees it: `none` = the param child, `some l` = literal child `l` -/
abbrev TSeg := Option Str
def toT (s : Str) : TSeg := if isParamSegment s then none else some s
def tpath (segs : List Str) : List TSeg := segs.map toT
def Entry.tp (e : Entry) : List TSeg := tpath e.segs

/-! ### reasons (exact Go text; `%q` = `strconv.Quote` for printable text) -/

def goQuote (s : Str) : String :=
  "\"" ++ String.ofList (s.flatMap fun c => if c = '"' then ['\\', '"'] else if c = '\\' then ['\\', '\\'] else [c]) ++ "\""

def dupReason : String := "duplicate method/path combination"

def reasonPvL (e r : Entry) (seg lit : Str) : String :=
  s!"parameter {goQuote seg} in path '{e.verb} {e.path}' conflicts with literal {goQuote lit} in path '{r.verb} {r.path}'"
def reasonPvP (e r : Entry) (seg other : Str) : String :=
  s!"parameter {goQuote seg} in path '{e.verb} {e.path}' conflicts with parameter {goQuote other} in path '{r.verb} {r.path}'"
def reasonLvP (e r : Entry) (seg other : Str) : String :=
  s!"literal {goQuote seg} in path \"{e.verb} {e.path}\" conflicts with parameter {goQuote other} of in path '{r.verb} {r.path}'"

structure Conflict where
  a : Entry
  b : Entry
  reason : String
deriving DecidableEq, Repr

/-- `addConflict`: canonical order by path text, de-duplicated on (identity a, identity b, reason) -/
def mkConflict (a b : Entry) (reason : String) : Conflict :=
  if b.path < a.path then ⟨b, a, reason⟩ else ⟨a, b, reason⟩

def sameKey (c d : Conflict) : Bool := c.a.id = d.a.id && c.b.id = d.b.id && c.reason = d.reason

def addConflict (out : List Conflict) (a b : Entry) (reason : String) : List Conflict :=
  let c := mkConflict a b reason
  if out.any (sameKey c) then out else out ++ [c]

/-! ### the walk of one new entry -/

/-- The reasons for which the Go loop calls `addConflict(entry, r, …)` while walking the new
    entry's segments `ss` down the trie, for ONE registered entry `r` with segments `ts`.
    While the two trie paths agree the walk is still above `r`'s node:
    * new segment is a param, `r`'s is a param: `reportParamVsParam` finds `r` below `curr.paramChild`
      (and both continue into the param child);
    * new is a param, `r`'s a literal: `reportParamVsLiterals` finds `r` below that literal child; the
      paths part here, `r` is never below `curr` again;
    * new is a literal, `r`'s a param: `reportLiteralVsParam`; the paths part;
    * equal literals: same child, continue; different literals: never met. -/
def walk (e r : Entry) : List Str → List Str → List String
  | s :: ss, t :: ts =>
    if isParamSegment s then
      if isParamSegment t then reasonPvP e r s t :: walk e r ss ts
      else [reasonPvL e r s t]
    else
      if isParamSegment t then [reasonLvP e r s t]
      else if s = t then walk e r ss ts
      else []
  | _, _ => []

/-- every `report*` call is guarded by the verb (`collectEndpointsByMethod`) and `patternsConflict` -/
def attemptsFor (e r : Entry) : List String :=
  if r.verb = e.verb && patternsConflict e.segs r.segs then walk e r e.segs r.segs else []

/-- `(registered entry, reason)` for every `addConflict` call made while walking `e` -/
def attempts (reg : List Entry) (e : Entry) : List (Entry × String) :=
  reg.flatMap fun r => (attemptsFor e r).map fun reason => (r, reason)

/-- the endpoint already stored at `e`'s trie node for `e`'s verb, if any -/
def existing (reg : List Entry) (e : Entry) : Option Entry :=
  reg.find? (fun r => r.verb = e.verb && r.tp = e.tp)

structure State where
  reg : List Entry := []
  out : List Conflict := []

def step (s : State) (e : Entry) : State :=
  let out := (attempts s.reg e).foldl (fun o (p : Entry × String) => addConflict o e p.1 p.2) s.out
  match existing s.reg e with
  | some r => { reg := s.reg, out := addConflict out e r dupReason }
  | none => { reg := s.reg ++ [e], out := out }

def conflictLe (c d : Conflict) : Bool :=
  if c.a.path = d.a.path then
    if c.b.path = d.b.path then c.reason ≤ d.reason else c.b.path < d.b.path
  else c.a.path < d.a.path

/-- `FindConflicts` -/
def findConflicts (es : List Entry) : List Conflict :=
  ((es.foldl step {}).out).mergeSort conflictLe

/-- identities are positions in the input list -/
def mkEntries (l : List (String × String)) : List Entry :=
  l.zipIdx.map fun (p, i) => ⟨i, p.1, p.2⟩

/-! ### decidable specification (run by the driver on the model's and the implementation's answer) -/

def overlaps (a b : Entry) : Bool := a.id ≠ b.id && a.verb = b.verb && patternsConflict a.segs b.segs

/-- `(idA, idB)` pairs named by an answer -/
def specSound (es : List Entry) (named : List (Nat × Nat)) : Bool :=
  named.all fun (i, j) =>
    match es.find? (·.id = i), es.find? (·.id = j) with
    | some a, some b => overlaps a b
    | _, _ => false

def specComplete (es : List Entry) (named : List (Nat × Nat)) : Bool :=
  es.all fun e => !(es.any (overlaps e)) || named.any (fun (i, j) => i = e.id || j = e.id)

end Gleece.Paths
