/-
  C07 — the type-declaration model: declarations (struct / enum / alias), the references between them,
  reachability from the usage sites of routes, and the component schema of a declaration as a function
  of THAT DECLARATION ALONE.
  Anchors: core/visitors/{type.usage,typedecl,struct,enum,alias}.visitor.go (materialisation = closure),
  graphs/symboldg/model.synthesis.go + core/pipeline getModels (model list),
  generator/swagen/swagen30/models_generator.go, swagen31/models_generator31.go (schema of a declaration).
-/
namespace Gleece.Types

/-- identity of a declared type: (package, name) -/
abbrev TName := String × String

/-- a Go type expression as far as the emitters distinguish -/
inductive TExpr where
  | prim (name : String)          -- string, bool, int…, uint…, float32/64, time.Time, []byte, any
  | named (n : TName)
  | ptr (t : TExpr)
  | slice (t : TExpr)
  | map (t : TExpr)               -- map[string]T
  deriving Repr, DecidableEq, Inhabited

structure Field where
  name     : String               -- Go field name ("" never occurs: an embedded field carries its type's name)
  ty       : TExpr
  jsonTag  : Option String        -- the value of the `json:"…"` key, when present
  required : Bool                 -- `validate` lists `required`
  embedded : Bool
  deriving Repr, DecidableEq, Inhabited

inductive Body where
  | struct (fields : List Field)
  | enum (base : String) (values : List String)   -- values: the constants declared with this type, rendered as text
  | alias (base : TExpr)
  deriving Repr, Inhabited

structure Decl where
  name : TName
  doc  : String
  body : Body
  deriving Repr, Inhabited

/-- the declared types a type expression mentions -/
def TExpr.refs : TExpr → List TName
  | .prim _ => []
  | .named n => [n]
  | .ptr t => t.refs
  | .slice t => t.refs
  | .map t => t.refs

/-- the declared types a declaration mentions (through every field, visible or not, embedded or not) -/
def Decl.refs (d : Decl) : List TName :=
  match d.body with
  | .struct fs => fs.flatMap fun f => f.ty.refs
  | .enum _ _ => []
  | .alias b => b.refs

def lookup (ds : List Decl) (n : TName) : Option Decl := ds.find? fun d => d.name == n

/-- **reachability**: a root, or mentioned by a reachable declaration -/
inductive Reach (ds : List Decl) (roots : List TName) : TName → Prop where
  | root {n} : n ∈ roots → Reach ds roots n
  | step {m n d} : Reach ds roots m → lookup ds m = some d → n ∈ d.refs → Reach ds roots n

/-- one round: add everything the members mention -/
def expand (ds : List Decl) (s : List TName) : List TName :=
  (s ++ s.flatMap fun n => match lookup ds n with | some d => d.refs | none => []).eraseDups

/-- `fuel` rounds of expansion from the roots -/
def closure (ds : List Decl) : Nat → List TName → List TName
  | 0, s => s
  | k + 1, s => closure ds k (expand ds s)

/-- decidable: the set contains everything its members mention -/
def isClosed (ds : List Decl) (s : List TName) : Bool :=
  s.all fun n => match lookup ds n with
    | some d => d.refs.all fun r => s.contains r
    | none => true

/-! ### the schema of a declaration -/

inductive Sch where
  | ty (t : String) (format : String)
  | ref (component : String)
  | arr (items : Sch)
  | dict (values : Sch)
  deriving Repr, DecidableEq, Inhabited

def primSchema (p : String) : Sch :=
  if p = "string" then .ty "string" ""
  else if p = "bool" then .ty "boolean" ""
  else if p = "time.Time" then .ty "string" "date-time"
  else if p = "[]byte" then .ty "string" "base64"
  else if p = "float32" || p = "float64" then .ty "number" ""
  else if p = "any" then .ty "object" ""
  else .ty "integer" ""       -- int, int8…int64, uint, uint8…uint64

def TExpr.schema : TExpr → Sch
  | .prim p => primSchema p
  | .named n => .ref n.2
  | .ptr t => t.schema          -- a pointer is documented as its element
  | .slice t => .arr t.schema
  | .map t => .dict t.schema

def isUpper (c : Char) : Bool := 'A' ≤ c && c ≤ 'Z'

/-- encoding/json: is the field emitted, and under which name? unexported ⇒ no; `json:"-"` ⇒ no;
    the name is the part of the tag before the first comma, the Go name when that part is empty -/
def exportedName (s : String) : Bool := match s.toList with | c :: _ => isUpper c | [] => false

def Field.jsonName (f : Field) : Option String :=
  if !exportedName f.name then none
  else match f.jsonTag with
    | none => some f.name
    | some t =>
      if t = "-" then none
      else
        let n := t.toList.takeWhile (· != ',')
        some (if n.isEmpty then f.name else String.ofList n)

structure ObjSchema where
  props    : List (String × Sch)    -- in declaration order
  required : List String
  deriving Repr, DecidableEq, Inhabited

inductive Component where
  | object (title desc : String) (o : ObjSchema) (allOf : List String)   -- allOf: embedded components, in order
  | enum (title desc : String) (ty : String) (values : List String)
  | alias (title desc : String) (s : Sch)
  deriving Repr, DecidableEq, Inhabited

def structObj (fs : List Field) : ObjSchema :=
  let vis := fs.filterMap fun f => if f.embedded then none else (f.jsonName.map fun n => (n, f))
  { props := vis.map fun (n, f) => (n, f.ty.schema),
    required := (vis.filter fun (_, f) => f.required).map (·.1) }

/-- embedded structs, in order; an embedded field tagged `json:"-"` is not part of the payload (an
    unexported embedded struct type still is: its exported fields are promoted) -/
def embeddedOf (fs : List Field) : List String :=
  (fs.filter fun f => f.embedded && f.ty != .prim "error" && f.jsonTag != some "-").flatMap fun f => (f.ty.refs.map (·.2))

def enumType (base : String) : String := match primSchema base with | .ty t _ => t | _ => "object"

/-- **the component of a declaration: a function of the declaration alone** -/
def Decl.component (d : Decl) : Component :=
  match d.body with
  | .struct fs => .object d.name.2 d.doc (structObj fs) (embeddedOf fs)
  | .enum base vs => .enum d.name.2 d.doc (enumType base) vs
  | .alias b => .alias d.name.2 d.doc b.schema

/-- the usage sites of a project: the type expressions of route parameters and results -/
def rootsOf (usages : List TExpr) : List TName := (usages.flatMap TExpr.refs).eraseDups

/-- components of a project: the declarations reached from the usage sites, each mapped on its own -/
def components (ds : List Decl) (usages : List TExpr) : List (TName × Component) :=
  -- `ds.length + 1` rounds always reach a closed set (Lemmas/Types: `closure_closed`)
  (closure ds (ds.length + 1) (rootsOf usages)).filterMap fun n => (lookup ds n).map fun d => (n, d.component)

end Gleece.Types
